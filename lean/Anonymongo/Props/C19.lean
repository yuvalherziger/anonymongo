/-
  Props/C19.lean — PROPERTY C19: redacted output is a fixed point of redaction (tree level).

  In placeholder mode, full-redaction mode, with namespace and field-name pseudonymisation off
  and a replacement text that is not e-mail shaped: redacting the redaction of a line gives the
  same tree.  The byte level is `C19_bytes` (Props/C03b), the file level `C19_file` (Props/C19b).
  Walker level: a tree and its own redaction are related (Lemmas/Idem) and related trees are redacted alike
  (Lemmas/Rel).
-/
import Anonymongo.Lemmas.Idem
import Anonymongo.Lemmas.Refine
import Anonymongo.Lemmas.LineAlg
import Anonymongo.Props.C05
namespace Anonymongo

/-- **C19 (walker level)**: from every walker state (that can occur with --redactNamespaces off) the
    redaction of a redacted tree is that tree -/
theorem C19_walk (c : Ctx) (hplain : c.cfg.enc = none) (hfull : c.cfg.re = none) (hrfn : c.rfn = false)
    (hns : c.cfg.ns = false) (hrepl : isEmail c.cfg.repl = false) (hph : isEmail c.T.emailPH = true)
    (s : St) (hs : Ctx.St.ok s = true) (v : J) (hn : v.nodup = true) :
    c.run s (c.run s v) = c.run s v :=
  ((Ctx.run_rel c hfull c.FixRel c.leafSim_fixRel s v (c.run s v)
      (Ctx.relAt_self_run c hplain hrfn hns hrepl hph s v hs hn)).1).symm

theorem cmdDocA_idem (c : Ctx) (hplain : c.cfg.enc = none) (hfull : c.cfg.re = none) (hrfn : c.rfn = false)
    (hns : c.cfg.ns = false) (hrepl : isEmail c.cfg.repl = false) (hph : isEmail c.T.emailPH = true)
    (v : J) (hn : v.nodup = true) : c.cmdDocA (c.cmdDocA v) = c.cmdDocA v := by
  cases v with
  | obj cmd =>
    simp only [J.nodup, Bool.and_eq_true] at hn
    have e := c.redactCommandA_eq_mapVals
    -- the keys that choose the zones are bound after the rewrite iff they were before
    have hk : keysOf (c.redactCommandA cmd) = keysOf cmd := by rw [e, keysOf_mapVals]
    have hi := isSome_lookup_of_keysOf sInsert _ _ hk
    have hb := isSome_lookup_of_keysOf sBulkWrite _ _ hk
    simp only [Ctx.cmdDocA, hns, Bool.false_eq_true, if_false, J.obj.injEq]
    conv => lhs; rw [e (c.redactCommandA cmd), hi, hb, e cmd, mapVals_mapVals]
    rw [e cmd]
    exact mapVals_congr_left fun p hp =>
      C19_walk c hplain hfull hrfn hns hrepl hph _ (Ctx.zoneState_ok _ _ p.1) p.2 (nodupKVs_mem hn.2 hp)
  | _ => rfl

theorem redactAttrA_eq_mapVals (T : Tables) (cfg : Cfg) (hns : cfg.ns = false) (plan : Str → Str → Str) (g : Bool)
    (attr : List (Str × J)) :
    redactAttrA T cfg [] plan g attr =
      mapVals (fun k v =>
        let v1 := if cfg.ips && k = sRemote then (match v with | .str _ => .str T.ipPH | x => x) else v
        if g && cmdKeys.contains k then Ctx.cmdDocA { T := T, cfg := cfg, rfn := false } v1 else v1) attr := by
  rw [redactAttrA, redactAttrWith_eq_mapVals]
  congr 1; funext k v
  cases g <;> simp only [attrFn, List.any_nil, hns, Bool.false_and, Bool.true_and, Bool.false_eq_true, if_false, if_true] <;> rfl

theorem redactAttrA_idem (T : Tables) (cfg : Cfg) (hplain : cfg.enc = none) (hfull : cfg.re = none)
    (hns : cfg.ns = false) (hrepl : isEmail cfg.repl = false) (hph : isEmail T.emailPH = true)
    (plan : Str → Str → Str) (g : Bool) (attr : List (Str × J)) (hn : nodupKVs attr = true) :
    redactAttrA T cfg [] plan g (redactAttrA T cfg [] plan g attr) = redactAttrA T cfg [] plan g attr := by
  rw [redactAttrA_eq_mapVals T cfg hns, redactAttrA_eq_mapVals T cfg hns]
  refine mapVals_idem fun ⟨k, v⟩ hp => ?_
  have hv := nodupKVs_mem hn hp
  dsimp only
  by_cases hk : k = sRemote
  · subst hk
    simp only [sRemote_not_cmd, Bool.and_false, Bool.false_eq_true, if_false]
    cases cfg.ips <;> cases v <;> simp
  · simp only [hk, decide_false, Bool.and_false, Bool.false_eq_true, if_false]
    by_cases hc : (g && cmdKeys.contains k) = true
    · simp only [hc, if_true]
      exact cmdDocA_idem { T := T, cfg := cfg, rfn := false } hplain hfull rfl hns hrepl hph v hv
    · simp_all

/-- **C19 (tree level)**: `RedactMongoLog` is idempotent on every line without duplicate sibling keys,
    in placeholder mode with the value-redaction flags only (any of --redactNumbers,
    --redactBooleans, --redactIPs, any non-e-mail-shaped --replacement). -/
theorem C19_line (T : Tables) (cfg : Cfg) (hplain : cfg.enc = none) (hfull : cfg.re = none)
    (hns : cfg.ns = false) (hrepl : isEmail cfg.repl = false) (hph : isEmail T.emailPH = true)
    (plan : Str → Str → Str) (entry : List (Str × J)) (hn : (J.obj entry).nodup = true) :
    redactLine T cfg [] plan (redactLine T cfg [] plan entry) = redactLine T cfg [] plan entry := by
  rw [← redactLine_refine]
  simp only [J.nodup, Bool.and_eq_true] at hn
  unfold redactLineA redactLineWith
  cases hl : lookup sAttr entry with
  | none => simp [hl]
  | some a =>
    cases a with
    | obj attr =>
      simp only [mapKey_eq_mapVals, gated_mapVals_attr, lookup_mapVals, hl, Option.map_some, if_true]
      refine mapVals_idem fun ⟨k, v⟩ hp => ?_
      have hv := nodupKVs_mem hn.2 hp
      dsimp only
      by_cases hk : k = sAttr
      · simp only [hk, if_true]
        cases v with
        | obj at2 =>
          simp only [J.nodup, Bool.and_eq_true] at hv
          simp only [J.obj.injEq]
          exact redactAttrA_idem T cfg hplain hfull hns hrepl hph plan (gated entry) at2 hv.2
        | _ => rfl
      · simp only [hk, if_false]
    | _ => simp [hl]

/-- the regenerated constants meet the hypothesis on the e-mail placeholder, and the default
    replacement text the one on `--replacement` -/
theorem C19_constants : isEmail Generated.tables.emailPH = true ∧ isEmail Generated.tables.defaultRepl = false :=
  have ⟨_, _, _, hmail, _, _, hrepl⟩ := C05_valid
  ⟨hmail, hrepl⟩

/-- non-vacuity: a gated line with an e-mail, a date and a nested array, and a configuration, that meet the
    hypotheses of `C19_line` -/
example : let cfg : Cfg := ⟨"REDACTED".toList, true, false, true, false, none, none⟩
    let L : List (Str × J) := [("c".toList, .str "COMMAND".toList), ("attr".toList, .obj [("remote".toList, .str "1.2.3.4:5".toList),
      ("command".toList, .obj [("filter".toList, .obj [("m".toList, .str "a@b.co".toList),
        ("d".toList, .obj [("$date".toList, .str "2020".toList)]), ("n".toList, .arr [.arr [.num "7".toList]])])])])]
    (J.obj L).nodup = true ∧ isEmail cfg.repl = false := by decide +kernel

end Anonymongo
