/-
  Props/C06.lean — PROPERTY C06 (order-preserving, line-local map), the line-level parts of C07
  (one hostile line affects nothing else; the over-long-line stop) and C08 (I/O faults).
  All statements are for an ARBITRARY line function `f : Bytes → Option Bytes` (the real one is
  `parse ≫ redact ≫ print`), arbitrary inputs, arbitrary fault positions.  Texts are built with `joinLines`; what the
  reader does with such a text is in Lemmas/Stream.lean.
-/
import Anonymongo.Lemmas.Stream
namespace Anonymongo

/-- **C06 (line-local)**: redact(A ++ B) = redact(A) ++ redact(B) -/
theorem C06_local (f : Bytes → Option Bytes) (A B : List Bytes) :
    processLines f (A ++ B) = processLines f A ++ processLines f B := by
  simp [processLines, List.filterMap_append, List.flatMap_append]

/-- **C06 (no raw copy / skipped lines contribute nothing)** -/
theorem C06_skip (f : Bytes → Option Bytes) (A B : List Bytes) (l : Bytes) (h : f l = none) :
    processLines f (A ++ [l] ++ B) = processLines f (A ++ B) := by
  simp [processLines, List.filterMap_append, h]

/-- **C06/C07 (one line in, at most one line out, the others as usual)** -/
theorem C07_others (f : Bytes → Option Bytes) (A B : List Bytes) (l : Bytes) :
    processLines f (A ++ [l] ++ B) =
      processLines f A ++ (match f l with | none => [] | some o => o ++ [10]) ++ processLines f B := by
  cases h : f l <;> simp [processLines, List.filterMap_append, List.flatMap_append, h]

/-- **C06 (fault-free run)**: the output is exactly the order-preserving map over the scanned lines;
    the result is `ok` unless a line exceeds the reader's limit -/
theorem C06_faultfree (f : Bytes → Option Bytes) (bs : Bytes) :
    runStream f bs none none =
      (processLines f (scanTokens (splitNL bs)).1, if (scanTokens (splitNL bs)).2 then .tooLong else .ok) := by
  simp only [runStream, Bool.false_and, Bool.false_eq_true, if_false]
  rcases h : scanTokens (splitNL bs) with ⟨toks, tl⟩
  simp only [emitAll_none]
  cases tl <;> simp

theorem runStream_out (f : Bytes → Option Bytes) (bs : Bytes) :
    (runStream f bs none none).1 = processLines f (scanTokens (splitNL bs)).1 :=
  congrArg Prod.fst (C06_faultfree f bs)

/-- **C06 (LF vs CRLF)**: with every line below the reader's limit and no line ending in CR,
    the CRLF text and the LF text of the same lines are scanned into the same tokens -/
theorem C06_crlf (ls : List Bytes) (h10 : ∀ l ∈ ls, ∀ b ∈ l, b ≠ 10) (hcr : ∀ l ∈ ls, l.getLast? ≠ some 13)
    (hlen : ∀ l ∈ ls, l.length < maxLine) :
    scanTokens (splitNL (joinLines true ls)) = scanTokens (splitNL (joinLines false ls)) := by
  rw [splitNL_joinCRLF ls h10, splitNL_joinLF ls h10, scanTokens_short ls fun l h => Nat.le_of_lt (hlen l h),
    scanTokens_short, List.map_map]
  · congr 1
    exact List.map_congr_left fun l hl => by simp [dropCR_append_cr, dropCR_id l (hcr l hl)]
  · intro a ha
    obtain ⟨l, hl, rfl⟩ := List.mem_map.1 ha
    simpa using Nat.succ_le_of_lt (hlen l hl)

/-- **C06 (final newline optional)**: an unterminated last line is scanned like a terminated one -/
theorem C06_final (ls : List Bytes) (last : Bytes) (h10 : ∀ l ∈ ls, ∀ b ∈ l, b ≠ 10) (hl : ∀ b ∈ last, b ≠ 10)
    (hne : last ≠ []) :
    splitNL (joinLines false ls ++ last) = splitNL (joinLines false (ls ++ [last])) := by
  rw [splitNL_join_append ls h10, joinLines_append, splitNL_join_append ls h10, splitNL_no_nl last hl hne]
  simp [joinLines, splitNL_line last hl, splitNL]

/-- **C07 (over-long line, the single content-dependent stop)**: the scan stops with `tooLong` at the first segment longer than the
    limit; exactly the lines strictly before it are delivered; nothing of it is passed through -/
theorem C07_long (A B : List Bytes) (l : Bytes) (hA : ∀ a ∈ A, a.length ≤ maxLine) (hl : l.length > maxLine) :
    scanTokens (A ++ [l] ++ B) = (A.map dropCR, true) := by
  rw [List.append_assoc, scanTokens_append_short A hA]
  simp [scanTokens, hl]

/-- (C08) what `emitAll` has written, with or without a failing write, is a prefix of the fault-free output -/
theorem emitAll_prefix (f : Bytes → Option Bytes) (k : Option Nat) : ∀ (toks : List Bytes) (n : Nat),
    (emitAll f k toks n).1 <+: processLines f toks
  | [], _ => by simp [emitAll, processLines]
  | t :: rest, n => by
    cases h : f t with
    | none =>
      simp only [emitAll, h, processLines, List.filterMap_cons]
      exact emitAll_prefix f k rest n
    | some o =>
      simp only [emitAll, h]
      by_cases hk : k = some n
      · simp [hk]
      · simp only [hk, if_false]
        have ih := emitAll_prefix f k rest (n + 1)
        simp only [processLines, List.filterMap_cons, h, List.flatMap_cons] at ih ⊢
        obtain ⟨s, hs⟩ := ih
        exact ⟨s, by rw [← hs]; simp⟩

/-- **C08 (write fault: prefix)**: whatever was written before a failing write is a prefix of the
    fault-free output (as bytes; that these bytes are the first `k` output lines, each with its newline, is
    `emitAll_some`, Lemmas/Stream.lean) -/
theorem C08_write_prefix (f : Bytes → Option Bytes) (bs : Bytes) (k : Nat) :
    (runStream f bs none (some k)).1 <+: (runStream f bs none none).1 := by
  rw [runStream_out]
  simp only [runStream, Bool.false_and, Bool.false_eq_true, if_false]
  rcases h : scanTokens (splitNL bs) with ⟨toks, tl⟩
  have := emitAll_prefix f (some k) toks 0
  rcases h2 : emitAll f (some k) toks 0 with ⟨out, wf⟩
  rw [h2] at this
  cases wf <;> cases tl <;> simpa using this

/-- **C08 (success is reported only for complete output)**: the result is `ok` exactly when no
    read fault was injected within the input, the failing write was not reached, and no line is
    over-long -/
theorem C08_ok_iff (f : Bytes → Option Bytes) (bs : Bytes) (r w : Option Nat) :
    (runStream f bs r w).2 = .ok ↔
      ((∀ k, r = some k → bs.length < k) ∧
       (∀ k, w = some k → ¬ k < ((scanTokens (splitNL bs)).1.filterMap f).length) ∧
       (scanTokens (splitNL bs)).2 = false) := by
  have key : (runStream f bs none w).2 = .ok ↔
      (∀ k, w = some k → ¬ k < ((scanTokens (splitNL bs)).1.filterMap f).length) ∧ (scanTokens (splitNL bs)).2 = false := by
    simp only [runStream, Bool.false_and, Bool.false_eq_true, if_false]
    rcases hst : scanTokens (splitNL bs) with ⟨toks, tl⟩
    cases w with
    | none =>
      simp only [emitAll_none]
      cases tl <;> simp
    | some j =>
      rw [emitAll_some f j toks 0 (Nat.zero_le _)]
      by_cases hj : j < (toks.filterMap f).length <;> cases tl <;> simp [hj, Nat.le_of_not_lt]
  cases r with
  | none => simpa using key
  | some k =>
    by_cases hk : k ≤ bs.length
    · -- read fault inside the input: never ok
      refine ⟨fun h => absurd h (runStream_read_ne_ok f bs k w hk), fun ⟨h1, _, _⟩ => ?_⟩
      have := h1 k rfl
      omega
    · -- read fault position beyond the input: as without it
      have e : runStream f bs (some k) w = runStream f bs none w := by simp [runStream, hk]
      rw [e, key]
      simp; omega

/-- **C08 (read fault anywhere)**: the input is some complete lines `A`, then a piece `p` of the next
    line (possibly empty, possibly the whole line without its newline), then whatever else; the read
    fails once `A` and `p` have been delivered.  What is written is exactly the fault-free output of the
    complete lines `A` — the piece `p` is never processed, however it looks — this is a prefix of the
    fault-free output of the whole input, and the run reports the read error -/
theorem C08_read_cut (f : Bytes → Option Bytes) (A : List Bytes) (p rest : Bytes)
    (hA : ∀ l ∈ A, ∀ b ∈ l, b ≠ 10) (hp : ∀ b ∈ p, b ≠ 10)
    (hlenA : ∀ l ∈ A, l.length ≤ maxLine) (hlenp : p.length ≤ maxLine) :
    let bs := joinLines false A ++ (p ++ rest)
    let k := (joinLines false A ++ p).length
    runStream f bs (some k) none = (processLines f (A.map dropCR), .readErr) ∧
    processLines f (A.map dropCR) <+: (runStream f bs none none).1 := by
  intro bs k
  have hk : k ≤ bs.length := by simp [k, bs]
  have htake : bs.take k = joinLines false A ++ p := by
    have : bs = (joinLines false A ++ p) ++ rest := by simp [bs]
    rw [this]; exact List.take_left
  constructor
  · simp only [runStream, hk, if_true, htake]
    rw [splitNL_join_append A hA p]
    by_cases hpe : p = []
    · subst hpe
      simp only [splitNL, List.append_nil, scanTokens_short A hlenA, endsUnterminated_joinLF, Bool.and_false,
        Bool.false_eq_true, if_false, emitAll_none]
    · rw [splitNL_no_nl p hp hpe, scanTokens_append_short A hlenA]
      have hps : ¬ p.length > maxLine := by omega
      simp only [scanTokens, hps, if_false, endsUnterminated_append_ne _ p hp hpe, Bool.not_false, Bool.and_self,
        if_true, List.dropLast_concat, emitAll_none]
      simp
  · rw [runStream_out]
    simp only [bs]
    rw [splitNL_join_append A hA, scanTokens_append_short A hlenA]
    simp only [C06_local]
    exact List.prefix_append _ _

/-- **C08 (read fault at a line boundary: prefix)**: when the read fails right after a complete
    line (the cut does not split a line), what was written is the fault-free output of the lines
    received, a prefix of the fault-free output of the whole input: `C08_read_cut` with an empty piece -/
theorem C08_read_prefix (f : Bytes → Option Bytes) (ls more : List Bytes)
    (h10 : ∀ l ∈ ls ++ more, ∀ b ∈ l, b ≠ 10) (hlen : ∀ l ∈ ls ++ more, l.length ≤ maxLine) :
    let bs := joinLines false (ls ++ more)
    let k := (joinLines false ls).length
    (runStream f bs (some k) none).1 <+: (runStream f bs none none).1 ∧
    (runStream f bs (some k) none).2 = .readErr := by
  intro bs k
  have h := C08_read_cut f ls [] (joinLines false more) (fun l hl => h10 l (by simp [hl])) (fun _ h => nomatch h)
    (fun l hl => hlen l (by simp [hl])) (Nat.zero_le _)
  simp only [List.nil_append, List.append_nil, ← joinLines_append] at h
  rw [show runStream f bs (some k) none = _ from h.1]
  exact ⟨h.2, rfl⟩

end Anonymongo
