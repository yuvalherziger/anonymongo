/-
  Props/C05.lean — PROPERTY C05: type-aware placeholders, leaf level: the regenerated constants are checked against
  Spec/Placeholders; `C05_class` is `redactScalar_plain` (Lemmas/ScalarClass).  Whole trees: Props/C05b.
-/
import Anonymongo.Spec.Placeholders
import Anonymongo.Lemmas.ScalarClass
import Anonymongo.Generated.Tables
namespace Anonymongo

/-- **C05 (validity of the constants)** — an obligation on regenerated data -/
theorem C05_valid :
    Spec.isISOInstant Generated.tables.isoDate = true ∧
    Spec.isObjectId Generated.tables.objectId = true ∧
    Spec.isBase64 Generated.tables.uuid = true ∧
    isEmail Generated.tables.emailPH = true ∧
    Generated.tables.number = "0".toList ∧
    Generated.tables.boolean = false ∧
    isEmail Generated.tables.defaultRepl = false := by
  decide +kernel

/-- **C05 (class placeholder)**: in placeholder mode, for every key path, value, stage mode and
    flag set, `redactScalarValue` either hands the value back because of the key path alone
    (exempt operator / selective mode without a matching name) or returns exactly the
    placeholder of the value's own class. -/
theorem C05_class (T : Tables) (cfg : Cfg) (hplain : cfg.enc = none) (kp : List Str) (v : J) (S sel : Bool) :
    redactScalar T cfg kp v S sel =
      if keptByPath T cfg kp S sel then v else placeholderOf T cfg v (classOf kp v) :=
  redactScalar_plain T cfg hplain kp v S sel

/-- **C05 (value independence of the decision)**: whether a leaf is handed back depends on the key
    path and flags only, never on the value -/
theorem C05_decision_value_free (T : Tables) (cfg : Cfg) (kp : List Str) (S sel : Bool) (v w : J) :
    keptByPath T cfg kp S sel = true → redactScalar T cfg kp v S sel = v ∧ redactScalar T cfg kp w S sel = w := by
  intro h
  exact ⟨by rw [redactScalar_eq, if_pos h], by rw [redactScalar_eq, if_pos h]⟩

/-- non-vacuity: a date under `$date` in a filter is not kept by path and is of class `date` -/
example : keptByPath Generated.tables ⟨"R".toList, false, false, false, false, none, none⟩
    ["a".toList, "$date".toList] false false = false ∧
    classOf ["a".toList, "$date".toList] (.str "2020".toList) = .date := by decide +kernel

end Anonymongo
