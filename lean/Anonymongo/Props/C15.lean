/-
  Props/C15.lean — PROPERTY C15: field-name redaction (--redactFieldNames <ns>): the per-line switch, key renaming and
  `$field` references in the walkers, and the plan summary (`redactPlan repl` is `redactPlanWith (hashName repl)`, the
  function the filter keys go through; worked instances here, general statements in Props/C15b and Props/C15c).
  Known findings (recorded, not theorems): projection / distinct key not walked, Atlas Search `path` arguments, arrays of
  names under FieldName-typed arguments.
-/
import Anonymongo.Lemmas.LineAlg
import Anonymongo.Model.Plan
import Anonymongo.Props.C13
namespace Anonymongo

/-- the per-line switch of --redactFieldNames -/
def eagerFor (eagerPaths : List Str) (attr : List (Str × J)) : Bool :=
  eagerPaths.any fun p => isPrefix p (strOrEmpty (lookup sNs attr))

theorem attrFn_eager_congr (cd : Ctx → J → J) (T : Tables) (cfg : Cfg) (e1 e2 : List Str) (plan : Str → Str → Str) (g : Bool)
    (attr : List (Str × J)) (h : eagerFor e1 attr = eagerFor e2 attr) :
    attrFn cd T cfg e1 plan g attr = attrFn cd T cfg e2 plan g attr := by
  unfold eagerFor at h
  funext k v
  simp only [attrFn, h]

/-- **C15 (other namespaces)**: if no configured path is a prefix of the line's namespace the line is
    redacted exactly as without the flag -/
theorem C15_other_ns (T : Tables) (cfg : Cfg) (eager : List Str) (plan : Str → Str → Str) (g : Bool)
    (attr : List (Str × J)) (h : eagerFor eager attr = false) :
    redactAttr T cfg eager plan g attr = redactAttr T cfg [] plan g attr := by
  unfold redactAttr
  rw [redactAttrWith_eq_mapVals, redactAttrWith_eq_mapVals,
    attrFn_eager_congr Ctx.cmdDoc T cfg eager [] plan g attr (by rw [h]; rfl)]

/-- **C15 (when the mode is on)**: every command document of a gated line is redacted with
    `rfn = eagerFor paths attr` -/
theorem C15_eager_iff (T : Tables) (cfg : Cfg) (eager : List Str) (plan : Str → Str → Str)
    (attr : List (Str × J)) (k : Str) (hk : cmdKeys.contains k = true) (v : J) (h : lookup k attr = some v) :
    lookup k (redactAttr T cfg eager plan true attr) =
      some (Ctx.cmdDoc { T := T, cfg := cfg, rfn := eagerFor eager attr } v) := by
  unfold redactAttr
  rw [lookup_redactAttrWith, h, attrFn_cmd _ _ _ _ _ _ _ k hk]
  rfl

/-- **C15 (key renaming, query walker)**: a non-operator key becomes its pseudonym, an operator key
    (known to the parent's sub-table, else to the core table) is kept -/
theorem C15_key_rename (c : Ctx) (hrfn : c.rfn = true) (pc : Option Meta) (k : Str) :
    c.qKey (c.qOp pc k) k = if (c.qOp pc k).isNone then hashName c.cfg.repl k else k := by
  simp [Ctx.qKey, hrfn, Ctx.H]

/-- **C15 (siblings)**: the query walker emits one member per input member, in order -/
theorem C15_siblings (c : Ctx) (S : Bool) (pc : Option Meta) (kp : List Str) :
    ∀ kvs, (c.Q S pc kp kvs).length = kvs.length ∧
      (c.Q S pc kp kvs).map (·.1) = kvs.map fun p => c.qKey (c.qOp pc p.1) p.1
  | [] => by simp [Ctx.Q]
  | (k, v) :: rest => by
    have ih := C15_siblings c S pc kp rest
    simp [Ctx.Q, ih.1, ih.2]

/-- **C15 ("$field" references)**: with the mode on a reference that is not an operator name becomes
    the pseudonym of the field — the same string the key `field` is renamed to -/
theorem C15_refs (c : Ctx) (hrfn : c.rfn = true) (f : Str) (hop : (lookup ('$' :: f) c.T.core).isNone = true)
    (S : Bool) (co : Option Meta) (nkp kp : List Str) (pk : Str) (sel : Bool) :
    c.qValScalar S co nkp (.str ('$' :: f)) = .str (hashName c.cfg.repl f) ∧
    c.aElemScalar S pk sel kp (.str ('$' :: f)) = .str (hashName c.cfg.repl f) ∧
    c.genericScalar S nkp (.str ('$' :: f)) = .str (hashName c.cfg.repl f) ∧
    c.pScalar S kp (.str ('$' :: f)) = .str (hashName c.cfg.repl f) := by
  have hd : c.dollarString ('$' :: f) = .str (hashName c.cfg.repl f) := by
    simp [Ctx.dollarString, hrfn, hop, Ctx.H, C13_dollar]
  refine ⟨?_, ?_, ?_, ?_⟩ <;> simp [Ctx.qValScalar, Ctx.aElemScalar, Ctx.genericScalar, Ctx.pScalar, dollarPrefixed, hd]

/-- **C15 (values as without the flag)**: on a value that is not a "$…" string the query walker and
    the array walker do not look at the flag -/
theorem C15_values (T : Tables) (cfg : Cfg) (S : Bool) (co : Option Meta) (nkp kp : List Str) (pk : Str) (sel : Bool) (v : J)
    (hv : ∀ s, v = .str s → dollarPrefixed s = false) :
    Ctx.qValScalar ⟨T, cfg, true⟩ S co nkp v = Ctx.qValScalar ⟨T, cfg, false⟩ S co nkp v ∧
    Ctx.aElemScalar ⟨T, cfg, true⟩ S pk sel kp v = Ctx.aElemScalar ⟨T, cfg, false⟩ S pk sel kp v := by
  cases v with
  | str s => simp [Ctx.qValScalar, Ctx.aElemScalar, Ctx.scalar, hv s rfl]
  | _ => simp [Ctx.qValScalar, Ctx.aElemScalar, Ctx.scalar]

/-- **C15 (plan summary)**: COLLSCAN is left alone -/
theorem C15_plan_collscan (r : Str) : redactPlan r sCOLLSCAN = sCOLLSCAN := by simp [redactPlan, redactPlanWith]

/-- a visible stand-in for the pseudonym function: `k ↦ <k>` -/
def markName (k : Str) : Str := '<' :: k ++ ['>']

/-- **C15 (plan summary, worked instances evaluated in the kernel)**, with the stand-in `k ↦ <k>` for
    the pseudonym function (the rewriter `redactPlanWith` is parametric in it; `redactPlan repl` is
    its instance at `hashName repl`, the function the filter keys go through): every index key is
    replaced where it stands; spacing, directions, other stages are kept; names that contain one
    another and single hex letters are handled. -/
theorem C15_plan_instances :
    redactPlanWith markName "IXSCAN { a: 1, b: 1 }".toList = "IXSCAN { <a>: 1, <b>: 1 }".toList ∧
    redactPlanWith markName "IXSCAN { foo: 1, foobar: -1 }".toList = "IXSCAN { <foo>: 1, <foobar>: -1 }".toList ∧
    redactPlanWith markName "FETCH IXSCAN {x.y:-1 ,  z : 1}, IXSCAN { x.y: 1 }".toList =
      "FETCH IXSCAN {<x.y>:-1 ,  <z> : 1}, IXSCAN { <x.y>: 1 }".toList ∧
    redactPlanWith markName "IDHACK".toList = "IDHACK".toList ∧
    redactPlanWith markName "COLLSCAN".toList = "COLLSCAN".toList ∧
    redactPlanWith markName "IXSCAN { }".toList = "IXSCAN { }".toList := by
  -- the literals: see the note in Lemmas/Base64.lean
  repeat rw [String.toList_ofList]
  decide +kernel

theorem C15_plan_def (r : Str) (ps : Str) : redactPlan r ps = redactPlanWith (hashName r) ps := rfl

/-- the plan-summary pseudonym of a key is the pseudonym of that key in the filter (same function) -/
theorem C15_plan_consistent (c : Ctx) (hrfn : c.rfn = true) (k : Str) (hk : (c.qOp none k).isNone = true) :
    c.qKey (c.qOp none k) k = hashName c.cfg.repl k := by
  rw [C15_key_rename c hrfn none k, if_pos hk]

end Anonymongo
