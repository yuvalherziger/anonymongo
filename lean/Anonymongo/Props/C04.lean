/-
  Props/C04.lean — PROPERTY C04: nothing outside the redaction zones is altered.

  Frame theorems over the line model: the top-level members other than `attr`, the attributes
  other than the command documents / remote / ns / planSummary, and the members of a command
  document other than the zone keys (and the namespace fields under --redactNamespaces) are
  carried over unchanged — value for value, key for key, in order.  Each flag is confined to its
  own place.  `$limit` / `$skip` arguments and the listed top-level stage parameters are kept
  (obligations on the regenerated tables).  Number literals are kept as text.
-/
import Anonymongo.Lemmas.LineAlg
import Anonymongo.Lemmas.Node
import Anonymongo.Lemmas.Prov
import Anonymongo.Generated.Tables
import Anonymongo.Model.JsonText
namespace Anonymongo

/-- **C04 (top level)**: timestamp, severity, component, id, context, message and every other
    top-level member except `attr` are emitted unchanged; keys and their order are preserved -/
theorem C04_top_frame (T : Tables) (cfg : Cfg) (eager : List Str) (plan : Str → Str → Str)
    (entry : List (Str × J)) :
    keysOf (redactLine T cfg eager plan entry) = keysOf entry ∧
    ∀ k, k ≠ sAttr → lookup k (redactLine T cfg eager plan entry) = lookup k entry := by
  unfold redactLine redactLineWith
  split
  · rw [mapKey_eq_mapVals]
    exact ⟨keysOf_mapVals _ _, fun k hk => by rw [lookup_mapVals]; cases lookup k entry <;> simp [hk]⟩
  · exact ⟨rfl, fun _ _ => rfl⟩

/-- the attributes that redaction may touch -/
def touchableAttrs : List Str := cmdKeys ++ [sRemote, sNs, sPlanSummary]

/-- **C04 (attributes)**: every attribute other than the three command documents, `remote`, `ns`
    and `planSummary` is emitted unchanged, on every line and under every flag set; keys and order
    of `attr` are preserved -/
theorem C04_attr_frame (T : Tables) (cfg : Cfg) (eager : List Str) (plan : Str → Str → Str) (g : Bool)
    (attr : List (Str × J)) :
    keysOf (redactAttr T cfg eager plan g attr) = keysOf attr ∧
    ∀ k, touchableAttrs.contains k = false → lookup k (redactAttr T cfg eager plan g attr) = lookup k attr := by
  unfold redactAttr
  refine ⟨keysOf_redactAttrWith _ _ _ _ _ _ _, ?_⟩
  intro k hk
  simp only [touchableAttrs, List.contains_eq_mem, List.mem_append, List.mem_cons, List.mem_nil_iff, or_false,
    decide_eq_false_iff_not, not_or] at hk
  obtain ⟨hc, hr, hn, hp⟩ := hk
  rw [lookup_redactAttrWith]
  cases lookup k attr <;> simp [attrFn, hc, hr, hn, hp]

/-- **C04 (flag confinement)**: `remote` changes only with --redactIPs, `ns` only with
    --redactNamespaces, `planSummary` only when a --redactFieldNames path is configured -/
theorem C04_flags (T : Tables) (cfg : Cfg) (eager : List Str) (plan : Str → Str → Str) (g : Bool)
    (attr : List (Str × J)) :
    (cfg.ips = false → lookup sRemote (redactAttr T cfg eager plan g attr) = lookup sRemote attr) ∧
    (cfg.ns = false → lookup sNs (redactAttr T cfg eager plan g attr) = lookup sNs attr) ∧
    (eager = [] → lookup sPlanSummary (redactAttr T cfg eager plan g attr) = lookup sPlanSummary attr) := by
  unfold redactAttr
  refine ⟨?_, ?_, ?_⟩ <;> intro h <;> rw [lookup_redactAttrWith]
  · rw [attrFn_remote]; simp [h]
  · rw [attrFn_ns]; simp [h]
  · rw [attrFn_planSummary]; simp [h]

/-- **C04 (other components)**: on a line that is not COMMAND / QUERY / WRITE / "Slow query" the
    command-shaped attributes are not touched either: with the value flags only, such a line is
    emitted exactly as it came in, except `remote` under --redactIPs and `ns` under --redactNamespaces -/
theorem C04_ungated (T : Tables) (cfg : Cfg) (eager : List Str) (plan : Str → Str → Str)
    (attr : List (Str × J)) (k : Str) (hr : k ≠ sRemote) (hn : k ≠ sNs) :
    lookup k (redactAttr T cfg eager plan false attr) = lookup k attr := by
  unfold redactAttr
  rw [lookup_redactAttrWith]
  cases lookup k attr <;> simp [attrFn, hr, hn]

theorem C04_ungated_noflags (T : Tables) (cfg : Cfg) (eager : List Str) (plan : Str → Str → Str)
    (attr : List (Str × J)) (hi : cfg.ips = false) (hw : cfg.ns = false) :
    redactAttr T cfg eager plan false attr = attr := by
  unfold redactAttr
  rw [redactAttrWith_eq_mapVals]
  simp only [mapVals, attrFn, hi, hw, Bool.false_and, Bool.false_eq_true, if_false]
  exact mapVals_id attr

/-- the members of a command document that redaction may touch -/
def commandZoneKeys : List Str := qKeysObj ++ uKeysObjOrArr ++ aKeysArr ++ [sDocuments, sDocument, sPipeline, sExplain, sOps]

theorem Ctx.cmdEntry_other (c : Ctx) (hi hb : Bool) (k : Str) (hk : commandZoneKeys.contains k = false) (v : J) :
    c.cmdEntry hi hb k v = v := by
  simp only [commandZoneKeys, List.contains_eq_mem, List.mem_append, List.mem_cons, List.mem_nil_iff, or_false,
    decide_eq_false_iff_not, not_or] at hk
  obtain ⟨⟨⟨h1, h2⟩, h3⟩, h4, h5, h6, h7, h8⟩ := hk
  simp [Ctx.cmdEntry, Ctx.cmdVal, h1, h2, h3, h4, h5, h6, h7, h8]

/-- **C04 (command documents)**: a member of a command document that is not one of the zone keys is
    unchanged by `redactCommand`; under --redactNamespaces only string values of the namespace-bearing
    fields (and `nsInfo`) are changed in addition; keys and order are preserved -/
theorem C04_cmd_frame (c : Ctx) (cmd : List (Str × J)) (k : Str) (hk : commandZoneKeys.contains k = false) :
    keysOf (c.redactCommand cmd) = keysOf cmd ∧
    lookup k (c.redactCommand cmd) = lookup k cmd ∧
    (c.T.searchedFields.contains k = false → k ≠ sNsInfo → lookup k (c.redactNamespace (c.redactCommand cmd)) = lookup k cmd) := by
  have e1 := c.redactCommand_eq_mapVals cmd
  have hv := c.cmdEntry_other (lookup sInsert cmd).isSome (lookup sBulkWrite cmd).isSome k hk
  have h6 : k ≠ sExplain := fun e => by simp [e, commandZoneKeys] at hk
  refine ⟨by rw [e1, keysOf_mapVals], ?_, ?_⟩
  · rw [e1, lookup_mapVals]; cases lookup k cmd <;> simp [hv]
  · intro hs hni
    rw [c.redactNamespace_eq_mapVals, e1, mapVals_mapVals, lookup_mapVals]
    cases h : lookup k cmd with
    | none => rfl
    | some v => simp only [Option.map_some, hv, Ctx.nsVal, Ctx.nsFieldVal, h6, hni, if_false, hs]; cases v <;> simp

/-- **C04 (kept parameters)** — obligations on the regenerated tables: `$limit` and `$skip` are
    exempt whatever the key path (any pipeline depth, stage walker and query walker), and the listed
    parameters of top-level stages are exempt -/
theorem C04_kept_params :
    isTy? (lookup "$limit".toList Generated.tables.core) .Exempt = true ∧
    isTy? (lookup "$skip".toList Generated.tables.core) .Exempt = true ∧
    isTy? (getOp Generated.tables ["$sample".toList] false) .Exempt = true ∧
    isTy? (getOp Generated.tables ["$search".toList, "index".toList] true) .Exempt = true ∧
    isTy? (getOp Generated.tables ["$searchMeta".toList, "index".toList] true) .Exempt = true ∧
    isTy? (getOp Generated.tables ["$vectorSearch".toList, "index".toList] true) .Exempt = true ∧
    isTy? (getOp Generated.tables ["$vectorSearch".toList, "numCandidates".toList] true) .Exempt = true ∧
    isTy? (getOp Generated.tables ["$vectorSearch".toList, "limit".toList] true) .Exempt = true := by
  decide +kernel

/-- **C04 ($limit / $skip at any depth)**: the stage walker copies the argument verbatim whatever it
    is; the query walker (nested `$lookup` / `$unionWith` pipelines) keeps a scalar argument -/
theorem C04_limit_skip (c : Ctx) (hT : c.T = Generated.tables) (k : Str)
    (hk : k = "$limit".toList ∨ k = "$skip".toList) (kp : List Str) (v : J) :
    c.PVal false kp k (getOp c.T (kp ++ [k]) false) v = v ∧
    (v.isScalar = true → c.rfn = false → c.QVal false (c.qOp none k) k (kp ++ [k]) v = v) := by
  have hcore : lookup k c.T.core = some (.ty .Exempt) := by
    rw [hT]; rcases hk with h | h <;> subst h
    · exact isTy?_eq _ _ C04_kept_params.1
    · exact isTy?_eq _ _ C04_kept_params.2.1
  rw [getOp_core_exempt c.T kp k hcore]
  constructor
  · cases v <;> simp [Ctx.PVal, Ctx.pValScalar]
  · intro hv hrfn
    rw [show c.qOp none k = some (.ty .Exempt) by simp [Ctx.qOp, hcore]]
    -- containers are excluded by `hv`
    cases v <;> simp [J.isScalar] at hv <;> simp [Ctx.QVal, Ctx.qValScalar, isTy?, Ctx.dollarString, hrfn]

/-- **C04 (number literals)**: a number is printed as its literal text — no rounding, no
    re-notation; and the parser keeps the literal text it read (`parseNumber_scanned`, Lemmas/NumRound) -/
theorem C04_numtext (lit : Str) : printJ (.num lit) = utf8 lit := by simp [printJ]

end Anonymongo
