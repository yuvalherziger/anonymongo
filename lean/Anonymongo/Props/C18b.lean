/-
  Props/C18b.lean — PROPERTY C18 over the validation chain REGENERATED from src/main.go on every run
  (Generated/CliChain.lean: tools/extract executes the `if ... os.Exit(1)` chain of the Run closure
  symbolically over the presence atoms).  The theorems of Props/C18.lean are about the hand-written
  transliteration `Cli.validate`; here the hand-written chain is shown, in the kernel and for all 2^13
  valuations, to reject exactly what the regenerated chain rejects — so that exactness holds of the
  source's chain too and `C18_clean` / `C18_modes` carry over.
-/
import Anonymongo.Generated.CliChain
import Anonymongo.Props.C18
namespace Anonymongo.Cli

def rejectedBySource (f : Flags) : Bool := Generated.rejectRules.any fun r => r f

theorem sweep_source : (allB fun a => allB fun b => allB fun c => allB fun d => allB fun e => allB fun f => allB fun g =>
    allB fun h => allB fun i => allB fun j => allB fun k => allB fun l => allB fun m =>
      let fl : Flags := ⟨a, b, c, d, e, f, g, h, i, j, k, l, m⟩
      rejectedBySource fl == !isAccept (validate fl)) = true := by decide +kernel

/-- **the hand-written transliteration is the source's chain** (so C18_clean / C18_modes speak about it) -/
theorem C18_model_is_source (f : Flags) : rejectedBySource f = !isAccept (validate f) := by
  obtain ⟨a, b, c, d, e, f', g, h, i, j, k, l, m⟩ := f
  have := sweep_source
  simp only [allB_iff, beq_iff_eq] at this
  exact this a b c d e f' g h i j k l m

/-- **C18 (exactness, regenerated chain)**: what main.go's validation chain lets through is exactly
    the set of well-defined jobs of the rule table written from the README / the property text -/
theorem C18_source_exact (f : Flags) : (!rejectedBySource f) = Spec.wellDefined f := by
  rw [C18_model_is_source, Bool.not_not, C18_exact]

end Anonymongo.Cli
