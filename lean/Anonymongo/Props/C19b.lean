/-
  Props/C19b.lean — PROPERTY C19 at the level of whole FILES: feeding the output file of a fault-free
  run back through the stream loop reproduces it byte for byte and ends without error.
  Generic part (`C19_file_generic`): for ANY line function whose outputs contain no LF / CR and are fixed
  points of the function; instance (`C19_file`): the redactor's line function `redactLineBytes` in placeholder
  mode with the value-redaction flags (C03_one_line, C19_bytes).  The only side condition is the reader's own
  limit: no OUTPUT line is longer than 65 535 bytes (a redacted line can be longer than its input; then the
  second pass stops with the explicit over-long-line error of C07 — observed on the real tool, stated here
  as the hypothesis).
-/
import Anonymongo.Props.C06
import Anonymongo.Props.C03b
namespace Anonymongo

/-- **C19 (whole files, generic)** -/
theorem C19_file_generic (f : Bytes → Option Bytes)
    (hclean : ∀ l o, f l = some o → ∀ b ∈ o, b ≠ 10 ∧ b ≠ 13)
    (hidem : ∀ l o, f l = some o → f o = some o)
    (bs : Bytes)
    (hshort : ∀ o ∈ (scanTokens (splitNL bs)).1.filterMap f, o.length ≤ maxLine) :
    runStream f (runStream f bs none none).1 none none = ((runStream f bs none none).1, .ok) := by
  rw [runStream_out f bs]
  generalize htoks : (scanTokens (splitNL bs)).1 = toks at hshort
  have houts : ∀ o ∈ toks.filterMap f, ∃ l, f l = some o := fun o ho => by
    obtain ⟨l, _, hl⟩ := List.mem_filterMap.1 ho; exact ⟨l, hl⟩
  have h10 : ∀ o ∈ toks.filterMap f, ∀ b ∈ o, b ≠ 10 := fun o ho b hb =>
    let ⟨l, hl⟩ := houts o ho; (hclean l o hl b hb).1
  have hcr : (toks.filterMap f).map dropCR = toks.filterMap f :=
    (List.map_congr_left fun o ho => dropCR_id o fun hl =>
      let ⟨l, h⟩ := houts o ho; (hclean l o h 13 (List.mem_of_getLast? hl)).2 rfl).trans (List.map_id _)
  have hfix : (toks.filterMap f).filterMap f = toks.filterMap f :=
    filterMap_fixed f _ fun o ho => let ⟨l, hl⟩ := houts o ho; hidem l o hl
  rw [C06_faultfree f (processLines f toks), processLines_eq_join f toks, splitNL_joinLF _ h10,
    scanTokens_short _ hshort]
  simp only [hcr, Bool.false_eq_true, if_false]
  rw [processLines_eq_join f (toks.filterMap f), hfix]

/-- **C06 / C03 (the physical lines of the output file)**: when no emitted line contains a line feed, cutting the
    output of a fault-free run at its newlines gives back exactly the emitted lines, in input order — one physical
    line per accepted input line, nothing else -/
theorem C06_output_lines (f : Bytes → Option Bytes) (hclean : ∀ l o, f l = some o → ∀ b ∈ o, b ≠ 10) (bs : Bytes) :
    splitNL (runStream f bs none none).1 = (scanTokens (splitNL bs)).1.filterMap f := by
  rw [runStream_out, processLines_eq_join]
  apply splitNL_joinLF
  intro o ho b hb
  simp only [List.mem_filterMap] at ho
  obtain ⟨l, _, hl⟩ := ho
  exact hclean l o hl b hb

/-- the redactor's line function (placeholder mode, no field-name redaction) -/
def redactLineBytes (T : Tables) (cfg : Cfg) (plan : Str → Str → Str) (bs : Bytes) : Option Bytes :=
  (parseObj bs).map fun e => printObj (redactLine T cfg [] plan e)

/-- **C19 (whole files)**: placeholder mode, value-redaction flags only, replacement text not e-mail shaped: the
    output file of a fault-free run, fed back through the tool with the same flags, is reproduced byte for
    byte and the second run ends without error — provided no output line exceeds the reader's 65 535-byte limit -/
theorem C19_file (T : Tables) (hT : validNumLit T.number = true) (hT2 : (T.number.all fun ch => 0x20 ≤ ch.toNat) = true)
    (cfg : Cfg) (hplain : cfg.enc = none) (hfull : cfg.re = none) (hns : cfg.ns = false)
    (hrepl : isEmail cfg.repl = false) (hph : isEmail T.emailPH = true) (plan : Str → Str → Str) (bs : Bytes)
    (hshort : ∀ o ∈ (scanTokens (splitNL bs)).1.filterMap (redactLineBytes T cfg plan), o.length ≤ maxLine) :
    runStream (redactLineBytes T cfg plan) (runStream (redactLineBytes T cfg plan) bs none none).1 none none =
      ((runStream (redactLineBytes T cfg plan) bs none none).1, .ok) := by
  have hout : ∀ l o, redactLineBytes T cfg plan l = some o →
      ∃ e, parseObj l = some e ∧ o = printObj (redactLine T cfg [] plan e) := by
    intro l o h
    obtain ⟨e, hp, rfl⟩ := Option.map_eq_some_iff.1 h
    exact ⟨e, hp, rfl⟩
  apply C19_file_generic _ _ _ bs hshort
  · intro l o h b hb
    obtain ⟨e, hp, rfl⟩ := hout l o h
    have := C03_one_line T hT2 cfg [] plan l e hp b hb
    exact ⟨this.1, this.2.1⟩
  · intro l o h
    obtain ⟨e, hp, rfl⟩ := hout l o h
    obtain ⟨e2, he2, hsame⟩ := C19_bytes T hT cfg hplain hfull hns hrepl hph plan l e hp
    simp only [redactLineBytes, he2, Option.map_some, hsame]

end Anonymongo
