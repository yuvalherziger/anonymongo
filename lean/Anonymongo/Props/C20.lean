/-
  Props/C20.lean — PROPERTY C20: the Atlas private key leaves the process only as a digest response.

  Two parts.
  (1) `Facts_priv` (Props/Facts/Priv.lean; first half re-exported as `C20_source_uses`): the uses of the identifiers
      `privateKey` / `atlasPrivateKey`, regenerated from atlas.go and main.go with go/ast, are the listed kinds and nothing else.
  (2) A data-flow model of what the process emits in Atlas mode, with the key as an explicit input
      `k` and the digest computation as an ARBITRARY function `D` of the key, the server's challenge
      and the request: every artefact (request lines, headers, stdout, stderr incl. quoted server
      bodies and transport errors, file contents) is a function of `D k` only — so two keys with the
      same digest responses give identical artefacts (`C20_ni`), and when the server never sends a
      challenge no key-dependent byte exists at all (`C20_nochallenge`) and no request of an exchange
      carries an `Authorization` header (`exchange_noauth`).
-/
import Anonymongo.Props.Facts.Priv
namespace Anonymongo.Atlas20

/-- one HTTP request as it goes on the wire -/
structure Request where
  url : Str
  headers : List (Str × Str)
  deriving DecidableEq, Repr

/-- what the other side does: whether it challenges, and what it answers (status, body) to a request —
    the body may quote anything it received (URL, headers) -/
structure Server where
  challenge : Request → Option Str          -- `some nonce` = 401 + WWW-Authenticate: Digest … nonce
  answer : Request → Nat × Str              -- status code and body of the final answer

structure Job where
  pub : Str
  project : Str
  cluster : Str
  hosts : List Str
  start : Str
  end_ : Str

def S (s : String) : Str := s.toList

def lookupURL (j : Job) : Str := S "https://cloud.mongodb.com/api/atlas/v2/groups/" ++ j.project ++ S "/clusters/" ++ j.cluster

def logURL (j : Job) (host : Str) : Str :=
  S "https://cloud.mongodb.com/api/atlas/v2/groups/" ++ j.project ++ S "/clusters/" ++ host ++
  S "/logs/mongodb.gz?endDate=" ++ j.end_ ++ S "&startDate=" ++ j.start

/-- the exchange for one URL: the unauthenticated request, and — only if challenged — its
    authenticated twin carrying `resp nonce url` (the digest response): `RoundTrip` of `digest.Transport`
    (mongodb-forks/digest), of which atlas.go makes a new one per call -/
def exchange (j : Job) (resp : Str → Str → Str) (sv : Server) (url : Str) (accept : Str) : List Request × (Nat × Str) :=
  let r0 : Request := ⟨url, [(S "Accept", accept)]⟩
  match sv.challenge r0 with
  | none => ([r0], sv.answer r0)
  | some nonce =>
    let r1 : Request := ⟨url, [(S "Accept", accept),
      (S "Authorization", S "Digest username=\"" ++ j.pub ++ S "\", nonce=\"" ++ nonce ++ S "\", uri=\"" ++ url ++
        S "\", response=\"" ++ resp nonce url ++ S "\"")]⟩
    ([r0, r1], sv.answer r1)

structure Artefacts where
  requests : List Request
  stdout : List Str
  stderr : List Str
  tmpFiles : List Str          -- contents written to temporary files
  deriving DecidableEq, Repr

/-- per-host downloads, stopping at the first failure -/
def hostsLoop (j : Job) (resp : Str → Str → Str) (sv : Server) : List Str → Artefacts → Artefacts
  | [], a => a
  | h :: rest, a =>
    let (rs, (code, body)) := exchange j resp sv (logURL j h) (S "application/vnd.atlas.2023-02-01+gzip")
    let a1 : Artefacts := { a with requests := a.requests ++ rs, stdout := a.stdout ++ [S "Downloading logs for host " ++ h ++ S "..."] }
    if code = 200 then hostsLoop j resp sv rest { a1 with tmpFiles := a1.tmpFiles ++ [body] }
    else { a1 with stderr := a1.stderr ++ [S "Error downloading Atlas logs: failed to download logs for host " ++ h ++
             S ": unexpected status: " ++ body] }

/-- everything the process emits, as a function of the digest-response function `resp` -/
def emit (j : Job) (resp : Str → Str → Str) (sv : Server) : Artefacts :=
  let (rs, (code, body)) := exchange j resp sv (lookupURL j) (S "application/vnd.atlas.2025-03-12+json")
  let a0 : Artefacts := ⟨rs, [S "Downloading Atlas cluster logs..."], [], []⟩
  if code = 200 then hostsLoop j resp sv j.hosts a0
  else { a0 with stderr := [S "Error downloading Atlas logs: failed to get cluster info: unexpected status: " ++ body] }

/-- Atlas mode with private key `k` and digest function `D` -/
def run (j : Job) (D : Str → Str → Str → Str) (k : Str) (sv : Server) : Artefacts := emit j (D k) sv

/-- **C20 (non-interference)**: two private keys whose digest responses agree produce identical
    requests, stdout, stderr and temporary files — whatever the server answers or quotes -/
theorem C20_ni (j : Job) (D : Str → Str → Str → Str) (k1 k2 : Str) (sv : Server)
    (h : ∀ nonce url, D k1 nonce url = D k2 nonce url) : run j D k1 sv = run j D k2 sv := by
  have : D k1 = D k2 := by funext n u; exact h n u
  simp [run, this]

theorem exchange_nochallenge (j : Job) (r1 r2 : Str → Str → Str) (sv : Server) (h : ∀ r, sv.challenge r = none) (url acc : Str) :
    exchange j r1 sv url acc = exchange j r2 sv url acc := by
  simp [exchange, h]

theorem hostsLoop_nochallenge (j : Job) (r1 r2 : Str → Str → Str) (sv : Server) (h : ∀ r, sv.challenge r = none) :
    ∀ hs a, hostsLoop j r1 sv hs a = hostsLoop j r2 sv hs a
  | [], a => rfl
  | x :: rest, a => by
    simp only [hostsLoop, exchange_nochallenge j r1 r2 sv h]
    split
    · exact hostsLoop_nochallenge j r1 r2 sv h rest _
    · rfl

/-- **C20 (no challenge, no credential)**: if the server never sends a digest challenge, the emitted
    artefacts do not depend on the private key at all, and no request carries an Authorization header -/
theorem C20_nochallenge (j : Job) (D : Str → Str → Str → Str) (k1 k2 : Str) (sv : Server) (h : ∀ r, sv.challenge r = none) :
    run j D k1 sv = run j D k2 sv := by
  simp only [run, emit, exchange_nochallenge j (D k1) (D k2) sv h]
  split
  · exact hostsLoop_nochallenge j (D k1) (D k2) sv h _ _
  · rfl

theorem exchange_noauth (j : Job) (r : Str → Str → Str) (sv : Server) (h : ∀ r, sv.challenge r = none) (url acc : Str) :
    ∀ q ∈ (exchange j r sv url acc).1, ∀ hd ∈ q.headers, hd.1 ≠ S "Authorization" := by
  simp only [exchange, h]
  intro q hq hd hh
  simp only [List.mem_singleton] at hq
  subst hq
  simp only [List.mem_singleton] at hh
  subst hh
  show S "Accept" ≠ S "Authorization"
  decide

/-- the uses of the key in the source are the ones the model has (re-export) -/
theorem C20_source_uses : (Generated.Facts.privUses.all fun u => allowedPrivKinds.contains u.1) = true := Anonymongo.Facts_priv.1

end Anonymongo.Atlas20
