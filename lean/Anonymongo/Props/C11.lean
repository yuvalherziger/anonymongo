/-
  Props/C11.lean — PROPERTY C11: key-file lifecycle (create once, never overwrite, refuse unusable).
  For ANY base64 codec with dec (enc b) = b, any fresh key material, any file content, any number of runs.
  With the codec of the tool (encoding/base64 on the file bytes): Props/C09c.
-/
import Anonymongo.Model.KeyFile
namespace Anonymongo.KeyFile

/-- **C11 (create)**: no key file → the fresh 64-byte key is stored (base64) and is the key in force;
    the stored file reads back as the same key -/
theorem C11_create (B : B64) (fresh : Bytes) (h : fresh.length = 64) :
    step B fresh .absent = (.file (B.enc fresh), .proceed fresh) ∧ readKey B (B.enc fresh) = some fresh := by
  simp [step, h, readKey, B.dec_enc]

/-- **C11 (reuse)**: a valid key file is used and left byte-for-byte untouched — the fresh material is ignored -/
theorem C11_reuse (B : B64) (fresh c k : Bytes) (h : readKey B c = some k) :
    step B fresh (.file c) = (.file c, .proceed k) := by
  simp [step, h]

/-- **C11 (refuse)**: an unusable key (undecodable, wrong length, a directory, unreadable, a path that
    cannot be created or examined) makes the run fail before any processing and is not overwritten -/
theorem C11_refuse (B : B64) (fresh : Bytes) (o : FsObj)
    (h : match o with
         | .absent => False
         | .file c => readKey B c = none
         | _ => True) :
    (step B fresh o).1 = o ∧ (step B fresh o).2.key? = none := by
  cases o <;> simp_all [step, Outcome.key?]

/-- what "unusable content" means: not base64, or base64 of something that is not 64 bytes -/
theorem C11_unusable_iff (B : B64) (c : Bytes) :
    readKey B c = none ↔ (B.dec c = none ∨ ∃ k, B.dec c = some k ∧ k.length ≠ 64) := by
  unfold readKey
  cases h : B.dec c with
  | none => simp
  | some k => by_cases hl : k.length = 64 <;> simp [hl]

/-- the key path never changes once it holds a file -/
theorem step_file_stable (B : B64) (fresh c : Bytes) : (step B fresh (.file c)).1 = .file c := by
  simp only [step]; split <;> rfl

theorem step_file_key (B : B64) (fresh c : Bytes) : (step B fresh (.file c)).2.key? = readKey B c := by
  simp only [step]; split <;> simp_all [Outcome.key?]

theorem runs_file (B : B64) (c : Bytes) : ∀ (fs : List Bytes),
    (runs B (.file c) fs).1 = .file c ∧ ∀ r ∈ (runs B (.file c) fs).2, r.key? = readKey B c
  | [] => ⟨rfl, fun _ h => nomatch h⟩
  | f :: rest => by
    have hs : step B f (.file c) = (.file c, (step B f (.file c)).2) := Prod.ext (step_file_stable B f c) rfl
    have ih := runs_file B c rest
    rw [runs, hs]
    exact ⟨ih.1, List.forall_mem_cons.2 ⟨step_file_key B f c, ih.2⟩⟩

/-- **C11 (sequences of runs)**: starting without a key file, for ANY number of further runs with ANY
    fresh material: the first run stores its key, every later run proceeds with that same key, and the
    file keeps the bytes written by the first run -/
theorem C11_seq (B : B64) (fresh : Bytes) (h : fresh.length = 64) (more : List Bytes) :
    (runs B .absent (fresh :: more)).1 = .file (B.enc fresh) ∧
    ∀ r ∈ (runs B .absent (fresh :: more)).2, r.key? = some fresh := by
  have h1 := C11_create B fresh h
  have h2 := runs_file B (B.enc fresh) more
  simp only [runs, h1.1]
  exact ⟨h2.1, List.forall_mem_cons.2 ⟨rfl, fun r hr => (h2.2 r hr).trans h1.2⟩⟩

/-- **C11 (an existing file is never rewritten, whatever it holds, over any number of runs)** -/
theorem C11_never_overwrite (B : B64) (c : Bytes) (fs : List Bytes) : (runs B (.file c) fs).1 = .file c :=
  (runs_file B c fs).1

/-- non-vacuity: with the identity codec a 64-byte file is a valid key and a 3-byte file is not -/
example : let B : B64 := ⟨id, some, fun _ => rfl⟩
    (readKey B (List.replicate 64 7)).isSome = true ∧ (readKey B [1, 2, 3]).isSome = false := by decide

end Anonymongo.KeyFile
