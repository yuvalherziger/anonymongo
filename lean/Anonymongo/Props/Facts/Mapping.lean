import Anonymongo.Props.Facts.Common
namespace Anonymongo
open Generated

/-- the pseudonym side table is write-only: its single occurrence in the whole program is the
    assignment inside `HashName` (so a pseudonym cannot depend on earlier calls) -/
theorem Facts_mapping_write_only :
    (Facts.globalRefs.filter fun r => r.1 == "RedactedFieldMapping".toList) = [("RedactedFieldMapping".toList, "HashName".toList, 1)] := by
  decide +kernel

end Anonymongo
