/- Props/Facts/CmdKeys.lean — the three command attributes the source walks are the model's `cmdKeys` -/
import Anonymongo.Props.Facts.Common
namespace Anonymongo
open Generated

theorem Facts_cmdKeys : sameSet Facts.attrCmdKeys cmdKeys = true := by decide +kernel

end Anonymongo
