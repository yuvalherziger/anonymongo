/- Props/Facts/Gate.lean — the components and the message that gate a line in the source are the model's -/
import Anonymongo.Props.Facts.Common
namespace Anonymongo
open Generated

theorem Facts_gate : (Facts.gateComponents == gateComponents) = true ∧ (Facts.gateMessages == [sSlowQuery]) = true := by
  decide +kernel

end Anonymongo
