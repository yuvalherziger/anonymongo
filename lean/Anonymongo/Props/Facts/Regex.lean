/-
  Props/Facts/Regex.lean — the one obligation whose data comes from the running binary (Generated/Tables.lean), not
  from the source facts
-/
import Anonymongo.Generated.Tables
namespace Anonymongo
open Generated

/-- the expression that `isEmail` (Model/Email.lean) is a hand-written recogniser of -/
def expectedEmailRegex : String :=
  "^[a-zA-Z0-9.!#$%&'*+/=?^_`{|}~-]+@[a-zA-Z0-9](?:[a-zA-Z0-9-]{0,61}[a-zA-Z0-9])?(?:\\.[a-zA-Z0-9](?:[a-zA-Z0-9-]{0,61}[a-zA-Z0-9])?)*$"

/-- the expression that `matchIxscanHere` (Model/Plan.lean) is a hand-written recogniser of -/
def expectedIxscanRegex : String := "IXSCAN\\s*\\{([^}]+)\\}"

/-- **the two fixed regular expressions of the program are the ones the model's recognisers were written for**
    (`emailRegex.String()` / `ixscanRegex.String()` of the binary built from the current source).  The recognisers themselves
    are tied to RE2 by the correspondence (every match-table entry, generated near-misses); this obligation makes a change
    of either expression visible before any input is tried. -/
theorem Facts_regex : emailRegexSource = expectedEmailRegex.toList ∧ ixscanRegexSource = expectedIxscanRegex.toList :=
  ⟨rfl, rfl⟩

end Anonymongo
