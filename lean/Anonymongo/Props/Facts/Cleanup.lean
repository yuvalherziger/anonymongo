import Anonymongo.Props.Facts.Common
namespace Anonymongo
open Generated

/-- **no way out of an Atlas job skips the clean-up** (C17): in the Run closure of `redact`, from the point where the function
    value that calls `DeleteClusterLogs` is bound, every `os.Exit` / `log.Fatal` / `panic` in the rest of that block is preceded —
    in its own block — by a call of that function value (`os.Exit` does not run deferred calls), and a `defer` of it covers the
    normal return (an exit without the call would be reported as `bare`, a missing `defer` as `none`).  The trace model
    (`Model/Atlas.lean`) removes the temporary files on every path; this is the source-side reason it may. -/
theorem Facts_cleanup :
    (Facts.cleanupExits.all fun u => u.1 == "cleaned".toList || u.1 == "defer".toList) = true ∧
    (Facts.cleanupExits.any fun u => u.1 == "defer".toList) = true ∧
    (Facts.cleanupExits.any fun u => u.1 == "cleaned".toList) = true := by
  decide +kernel

end Anonymongo
