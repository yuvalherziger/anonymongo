import Anonymongo.Props.Facts.Common
namespace Anonymongo
open Generated

/-- no `init` function; the only package-level initialisers that call functions build the operator tables -/
theorem Facts_inits : (Facts.inits.all fun i => i.take 17 == "operators.go:var ".toList) = true := by
  -- the literals: see the note in Lemmas/Base64.lean
  unfold Facts.inits
  repeat rw [String.toList_ofList]
  decide +kernel

end Anonymongo
