import Anonymongo.Props.Facts.Common
namespace Anonymongo
open Generated

/-- flag → variable → setter wiring of the value-redaction options: every setter is called
    unconditionally (nesting depth 0) with the variable its flag is bound to -/
def expectedWiring : List (String × String × String × String) := [
  ("replacement", "r", "replacement", "SetRedactedString"),
  ("redactNumbers", "n", "redactNumbers", "SetRedactNumbers"),
  ("redactBooleans", "b", "redactBooleans", "SetRedactBooleans"),
  ("redactIPs", "i", "redactIPs", "SetRedactIPs"),
  ("redactNamespaces", "w", "redactNamespaces", "SetRedactNamespaces"),
  ("redactFieldNames", "f", "eagerRedactionPaths", "SetEagerRedactionPaths"),
  ("redactFieldsRegexp", "z", "redactedFieldsRegexp", "SetRedactedFieldsRegexp"),
  ("atlasLogStartDate", "s", "atlasLogStartDate", "SetAtlasLogStartDate"),
  ("atlasLogEndDate", "e", "atlasLogEndDate", "SetAtlasLogEndDate")]

theorem Facts_wiring : (expectedWiring.all fun w =>
    Facts.flags.contains (w.1.toList, w.2.1.toList, w.2.2.1.toList) &&
    Facts.setters.contains (w.2.2.2.toList, w.2.2.1.toList, 0)) = true := by
  -- each expected row is found in the regenerated list by its text
  simp only [expectedWiring, List.all_cons, List.all_nil, Bool.and_true, Bool.and_eq_true, List.contains_iff_mem]
  simp only [Facts.flags, Facts.setters, List.mem_cons, true_or, or_true, and_self]

end Anonymongo
