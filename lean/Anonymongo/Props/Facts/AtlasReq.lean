import Anonymongo.Props.Facts.SameSet
namespace Anonymongo
open Generated

/-- the shape of the Atlas requests (C16, C20): the two request templates (cluster description; one host's log for a window: `endDate` / `startDate` as given) and the
    literal request headers — and nothing else: in particular no `Authorization` / key-bearing header is set by the
    repository's own code, no header has a computed value and no `SetBasicAuth` call exists.  Which function builds them is
    not part of the statement (compared as sets of (kind, text)). -/
def expectedAtlasLits : List (String × String) := [
  ("sprintf", "%s/api/atlas/v2/groups/%s/clusters/%s"),
  ("header", "Accept: application/vnd.atlas.2025-03-12+json"),
  ("sprintf", "%s/api/atlas/v2/groups/%s/clusters/%s/logs/mongodb.gz?endDate=%d&startDate=%d"),
  ("header", "Accept: application/vnd.atlas.2023-02-01+gzip"),
  ("header", "Content-Type: application/gzip")]

theorem Facts_atlas_requests :
    sameSet (Facts.atlasLits.map fun p => (p.1, p.2.2)) (expectedAtlasLits.map fun p => (p.1.toList, p.2.toList)) = true := by
  -- `atlasLits` comes in source order: each row is found in the other list by its text (`List.mem_cons`, `rfl`)
  apply sameSet_of_subsets <;> simp only [Facts.atlasLits, expectedAtlasLits, List.map] <;>
    (repeat rw [List.forall_mem_cons]) <;>
    simp only [List.mem_cons, true_or, or_true, and_self, List.not_mem_nil, false_imp_iff, implies_true]

end Anonymongo
