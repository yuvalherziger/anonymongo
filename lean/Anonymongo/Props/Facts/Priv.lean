import Anonymongo.Props.Facts.Common
namespace Anonymongo
open Generated

/-- the only things the code does with the Atlas private key: receive it as a parameter, declare / bind
    it to its flag, copy it between the flag variable, the environment fallback and the local, test it
    for emptiness, pass it on to the three Atlas functions, and put it into `digest.Transport.Password` -/
def allowedPrivKinds : List Str :=
  ["param", "declaration", "flagBinding", "assign", "emptyTest", "passThrough", "digestPassword"].map String.toList

theorem Facts_priv : (Facts.privUses.all fun u => allowedPrivKinds.contains u.1) = true ∧
    (Facts.privUses.any fun u => u.1 == "digestPassword".toList) = true := by decide +kernel

end Anonymongo
