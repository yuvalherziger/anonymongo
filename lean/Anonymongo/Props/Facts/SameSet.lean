/-
  Props/Facts/SameSet.lean — two ways to `sameSet a b = true` that never make the kernel read a string literal
  character by character: the lists are equal as written (for lists the generator sorts), or every row of
  each is found in the other by its text (for lists in source order).
-/
import Anonymongo.Props.Facts.Common
namespace Anonymongo

theorem sameSet_self {α} [BEq α] [ReflBEq α] (a : List α) : sameSet a a = true := by
  have : a.all a.contains = true := List.all_eq_true.2 fun x hx => List.elem_eq_true_of_mem hx
  simp [sameSet, this]

theorem sameSet_of_eq {α} [BEq α] [ReflBEq α] {a b : List α} (h : a = b) : sameSet a b = true := h ▸ sameSet_self a

theorem sameSet_of_subsets {α} [BEq α] [LawfulBEq α] {a b : List α} (h1 : ∀ x ∈ a, x ∈ b) (h2 : ∀ x ∈ b, x ∈ a) :
    sameSet a b = true := by
  simp only [sameSet, Bool.and_eq_true, List.all_eq_true, List.contains_iff_mem]
  exact ⟨h1, h2⟩

end Anonymongo
