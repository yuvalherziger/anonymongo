import Anonymongo.Props.Facts.Common
import Anonymongo.Model.Plan
import Anonymongo.Spec.Classes
import Anonymongo.Generated.Tables
namespace Anonymongo
open Generated

/-- **the key vocabulary of the model is the key vocabulary of the source.**  Every string literal that stands in a key position
    of the redaction path (anonymizer.go, helpers.go: operands of == / !=, case clauses, list elements, arguments of calls other
    than message formatting) is one of the names the model treats specially — the dispatch keys, the command attributes, the
    gate, the extended-JSON wrappers, the namespace keys (regenerated list), the two inline placeholders, the plan-summary
    punctuation — and the model knows no other.  A key the code starts to single out (or stops singling out) is a difference
    between these two sets. -/
def modelVocabulary : List Str :=
  qKeysObj ++ uKeysObjOrArr ++ aKeysArr ++ cmdKeys ++ gateComponents ++
  [sDocuments, sInsert, sPipeline, sDocument, sExplain, sBulkWrite, sOps, sNsInfo, sAttr, sRemote, sC, sMsg, sNs, sPlanSummary,
   sSlowQuery, sCOLLSCAN, sDate, sOid, sBase64, sBinary, sSubType, sMoreLikeThis, sLike, Ctx.sColl, Ctx.sInto] ++
  tables.searchedFields ++ [tables.emailPH, tables.ipPH] ++
  -- the empty string (absent values), the `$` of references / operators, and the punctuation of the plan-summary rewriter
  -- and of `HashName` (`.`)
  ["", "$", ",", ".", ":", "{", "}"].map String.toList

theorem Facts_vocabulary : sameSet Facts.keyLits modelVocabulary = true := by decide +kernel

end Anonymongo
