/- Props/Facts/Footprint.lean — two obligations over one table, both from `footprint_eq` -/
import Anonymongo.Props.Facts.SameSet
namespace Anonymongo
open Generated

/-- **configuration footprint**: which function reads which option variable / table — the dependencies the
    model gives the corresponding definitions (`redactScalar` reads numbers/booleans/regexp/replacement,
    `redactString` the key and the encrypt switch, `RedactMongoLog` IPs/namespaces/eager paths,
    `HashName` the replacement, …) -/
def expectedFootprint : List (String × String) := [
  ("AggregationOperators", "<package initialiser operators.go>"), ("AggregationOperators", "getOp"),
  ("CoreOperators", "getOp"), ("CoreOperators", "redactArrayValuesWithKey"), ("CoreOperators", "redactPipelineStage"),
  ("CoreOperators", "redactQueryValues"), ("CoreOperators", "traverseMapPath"), ("OperatorMapDefs", "traverseMapPath"),
  ("RedactedFieldMapping", "HashName"), ("SearchAggregationOperators", "getOp"),
  ("SearchOperators", "<package initialiser operators.go>"), ("SearchOperators", "getOp"), ("SearchOperators", "traverseMapPath"),
  ("TopLevelSearchOperators", "isInSearchStage"),
  ("atlasLogEndDate", "GetStartAndEndDates"), ("atlasLogEndDate", "SetAtlasLogEndDate"),
  ("atlasLogStartDate", "GetStartAndEndDates"), ("atlasLogStartDate", "SetAtlasLogStartDate"),
  ("defaultLogDuration", "GetStartAndEndDates"),
  ("eagerRedactionPaths", "RedactMongoLog"), ("eagerRedactionPaths", "SetEagerRedactionPaths"),
  ("emailRegex", "IsEmail"), ("encryptionKey", "SetEncryptionKey"), ("encryptionKey", "redactString"),
  ("geoJSON", "<package initialiser operators.go>"),
  ("ixscanRegex", "ParsePlanSummary"), ("ixscanRegex", "redactFieldNamesFromPlanSummary"),
  ("redactBooleans", "SetRedactBooleans"), ("redactBooleans", "redactScalarValue"),
  ("redactIPs", "RedactMongoLog"), ("redactIPs", "SetRedactIPs"),
  ("redactNamespaces", "RedactMongoLog"), ("redactNamespaces", "SetRedactNamespaces"), ("redactNamespaces", "redactPipelineStage"),
  ("redactNumbers", "SetRedactNumbers"), ("redactNumbers", "redactScalarValue"),
  ("redactedFieldsRegexp", "SetRedactedFieldsRegexp"), ("redactedFieldsRegexp", "augmentOp"),
  ("redactedFieldsRegexp", "isRedactableFieldPatternInArray"), ("redactedFieldsRegexp", "redactArrayValuesWithKey"),
  ("redactedFieldsRegexp", "redactScalarValue"),
  ("redactedString", "HashName"), ("redactedString", "SetRedactedString"), ("redactedString", "redactScalarValue"),
  ("shouldEncrypt", "SetShouldEncrypt"), ("shouldEncrypt", "redactString"), ("version", "main")]

/-- the variables of Atlas mode and the version string: no function on the redaction path mentions them (their rows of the
    table above name `GetStartAndEndDates`, the two setters and `main` only) -/
def atlasVars : List Str := ["atlasLogEndDate", "atlasLogStartDate", "defaultLogDuration", "version"].map String.toList

/-- the generator sorts `globalRefs` and merges its duplicates, and the table above is written in that order: the two are
    equal row for row, so neither `sameSet` nor the filters below have to be evaluated -/
theorem footprint_eq :
    (Facts.globalRefs.map fun r => (r.1, r.2.1)) = expectedFootprint.map fun p => (p.1.toList, p.2.toList) := by
  simp only [Facts.globalRefs, expectedFootprint, List.map]

/-- the footprint of the redaction path: every variable that is not an Atlas-mode variable -/
theorem Facts_footprint :
    sameSet ((Facts.globalRefs.map fun r => (r.1, r.2.1)).filter fun p => !atlasVars.contains p.1)
      ((expectedFootprint.map fun p => (p.1.toList, p.2.toList)).filter fun p => !atlasVars.contains p.1) = true :=
  sameSet_of_eq (congrArg _ footprint_eq)

/-- the footprint of the Atlas-mode variables (C16: the window is computed by `GetStartAndEndDates` from the two option
    variables and the default duration, and by nothing else) -/
theorem Facts_footprint_atlas :
    sameSet ((Facts.globalRefs.map fun r => (r.1, r.2.1)).filter fun p => atlasVars.contains p.1)
      ((expectedFootprint.map fun p => (p.1.toList, p.2.toList)).filter fun p => atlasVars.contains p.1) = true :=
  sameSet_of_eq (congrArg _ footprint_eq)

end Anonymongo
