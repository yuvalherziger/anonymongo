import Anonymongo.Props.Facts.Common
namespace Anonymongo
open Generated

/-! ### program state: the model treats every function on the redaction path as a pure function of
    (line, configuration).  The source facts below are what that rests on: the package-level variables
    are the operator tables, three compiled regular expressions, the option variables and one
    write-only side table; option variables are written by their setters only; nothing else is ever
    assigned, and no `init` function runs before the flags are parsed. -/

def expectedGlobals : List String := [
  "AggregationOperators", "CoreOperators", "OperatorMapDefs", "RedactedFieldMapping", "SearchAggregationOperators",
  "SearchOperators", "TopLevelSearchOperators", "atlasLogEndDate", "atlasLogStartDate", "defaultLogDuration",
  "eagerRedactionPaths", "emailRegex", "encryptionKey", "geoJSON", "ixscanRegex", "redactBooleans", "redactIPs",
  "redactNamespaces", "redactNumbers", "redactedFieldsRegexp", "redactedString", "shouldEncrypt", "version"]

/-- **no state beyond the known variables**: a cache, memo table, counter or reusable buffer at package
    level would be a new name here -/
theorem Facts_globals : sameSet Facts.globals (expectedGlobals.map String.toList) = true := by decide +kernel

end Anonymongo
