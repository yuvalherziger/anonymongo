import Anonymongo.Props.Facts.Common
namespace Anonymongo
open Generated

/-- methods that only read their receiver (ordered-map lookup, regular-expression matching) -/
def readOnlyMethods : List String :=
  ["method:Get", "method:MatchString", "method:FindAllStringSubmatch", "method:ReplaceAllStringFunc"]

def expectedWriters : List (String × String) := [
  ("redactedString", "SetRedactedString"), ("redactNumbers", "SetRedactNumbers"), ("redactBooleans", "SetRedactBooleans"),
  ("redactIPs", "SetRedactIPs"), ("redactNamespaces", "SetRedactNamespaces"), ("eagerRedactionPaths", "SetEagerRedactionPaths"),
  ("redactedFieldsRegexp", "SetRedactedFieldsRegexp"), ("encryptionKey", "SetEncryptionKey"), ("shouldEncrypt", "SetShouldEncrypt"),
  ("atlasLogStartDate", "SetAtlasLogStartDate"), ("atlasLogEndDate", "SetAtlasLogEndDate"),
  ("atlasLogStartDate", "GetStartAndEndDates"), ("atlasLogEndDate", "GetStartAndEndDates"),
  ("RedactedFieldMapping", "HashName"), ("version", "main")]

/-- **who may change what**: every assignment to (or address-taking / mutating call on) a package-level
    variable is one of the listed (variable, function) pairs: each option variable is written by its own
    setter and by nothing else (in particular no setter writes a second option), the operator tables
    and regular expressions are only read, the side table is written by `HashName` only -/
theorem Facts_writes : (Facts.globalWrites.all fun w =>
    (readOnlyMethods.map String.toList).contains w.2.2 ||
      (w.2.2 == "assign".toList && (expectedWriters.map fun p => (p.1.toList, p.2.toList)).contains (w.1, w.2.1))) = true := by
  -- row by row: the method, or `assign` and the pair, is found in the list it has to be in by its text
  simp only [Facts.globalWrites, List.all_cons, List.all_nil, Bool.and_true, Bool.and_eq_true, Bool.or_eq_true,
    List.contains_iff_mem, beq_self_eq_true, true_and]
  simp only [readOnlyMethods, expectedWriters, List.map, List.mem_cons, true_or, or_true, and_self]

end Anonymongo
