/-
  Props/C03b.lean — C03 and C19 at byte level, on top of the parse∘print round trip (Lemmas/JsonRound, Lemmas/ParseValid).
-/
import Anonymongo.Props.C03
import Anonymongo.Props.C19
import Anonymongo.Lemmas.ParseValid
namespace Anonymongo

/-- **C03 (the emitted bytes are the redacted tree)**: for every input line the parser accepts, every
    flag set (field-name redaction, selective mode and encrypt mode included) and every plan-summary
    rewriter, the emitted line is a valid JSON object, and parsing it gives back exactly the tree the
    redactor built: nothing is lost, merged, re-typed or re-ordered by serialisation. -/
theorem C03_reparse (T : Tables) (hT : validNumLit T.number = true) (cfg : Cfg) (eager : List Str)
    (plan : Str → Str → Str) (bs : Bytes) (entry : List (Str × J)) (hp : parseObj bs = some entry) :
    parseObj (printObj (redactLine T cfg eager plan entry)) = some (redactLine T cfg eager plan entry) :=
  parseObj_printObj _ (redactLine_printable T hT cfg eager plan entry (parseObj_printable bs entry hp))

/-- the regenerated number placeholder is a valid JSON number literal -/
theorem C03_number_placeholder_valid : validNumLit Generated.tables.number = true := by decide +kernel

/-- **C03 (bytes in, bytes out)**: with field-name redaction off, the parse of the emitted line has the
    same shape (keys, order, nesting, array lengths, scalar JSON types) as the parse of the input line. -/
theorem C03_bytes (T : Tables) (hT : validNumLit T.number = true) (cfg : Cfg) (plan : Str → Str → Str)
    (bs : Bytes) (entry : List (Str × J)) (hp : parseObj bs = some entry) :
    ∃ out, parseObj (printObj (redactLine T cfg [] plan entry)) = some out ∧ shapeEq (.obj entry) (.obj out) = true :=
  ⟨_, C03_reparse T hT cfg [] plan bs entry hp, C03_line T cfg plan entry (parseObj_nodup bs entry hp)⟩

/-- **C19 (bytes)**: in placeholder mode with the value-redaction flags only, feeding the emitted line
    back through the tool emits the same bytes again — for every input line the parser accepts. -/
theorem C19_bytes (T : Tables) (hT : validNumLit T.number = true) (cfg : Cfg) (hplain : cfg.enc = none) (hfull : cfg.re = none)
    (hns : cfg.ns = false) (hrepl : isEmail cfg.repl = false) (hph : isEmail T.emailPH = true)
    (plan : Str → Str → Str) (bs : Bytes) (entry : List (Str × J)) (hp : parseObj bs = some entry) :
    ∃ e2, parseObj (printObj (redactLine T cfg [] plan entry)) = some e2 ∧
      printObj (redactLine T cfg [] plan e2) = printObj (redactLine T cfg [] plan entry) := by
  refine ⟨_, C03_reparse T hT cfg [] plan bs entry hp, ?_⟩
  rw [C19_line T cfg hplain hfull hns hrepl hph plan entry (parseObj_nodup bs entry hp)]

/-- non-vacuity of `hp`: a concrete line (nested documents, a number with fraction and exponent, literals, an
    escape) is accepted by the parser.  (`String.toList_ofList` first: see the note in Lemmas/Base64.lean.) -/
example : (parseObj (utf8 "{\"c\":\"COMMAND\",\"attr\":{\"command\":{\"find\":\"c\",\"filter\":{\"a\":-1.5e3,\"b\":[true,null,\"x\\n\"]}}}}".toList)).isSome = true := by
  rw [String.toList_ofList]
  decide +kernel

end Anonymongo
