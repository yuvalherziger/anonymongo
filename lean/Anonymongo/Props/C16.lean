/-
  Props/C16.lean — PROPERTIES C16 and C17 over the Atlas trace model (for every number of hosts,
  every fault position and kind).
-/
import Anonymongo.Model.Atlas

theorem Anonymongo.flatMap_const_nil {α β} (l : List α) : l.flatMap (fun _ => ([] : List β)) = [] :=
  List.flatMap_eq_nil_iff.mpr fun _ _ => rfl

namespace Anonymongo.Atlas

def requests (t : List Ev) : List Ev := t.filter fun e => match e with | .lookup => true | .download _ => true | _ => false
def outputs (t : List Ev) : List Ev := t.filter fun e => match e with | .outWrite _ => true | _ => false

theorem downloadLoop_faultfree (dl : Nat → DlFault) (hok : ∀ i, dl i = .none) : ∀ n i have_,
    downloadLoop dl n i have_ =
      ((List.range' i n).flatMap (fun j => [Ev.download j, Ev.tmpCreate j]), some (have_ ++ List.range' i n))
  | 0, i, have_ => by simp [downloadLoop]
  | n + 1, i, have_ => by
    simp only [downloadLoop, hok i]
    rw [downloadLoop_faultfree dl hok n (i + 1) (have_ ++ [i])]
    simp [List.range'_succ, List.append_assoc]

theorem fileLoop_faultfree (ff : Nat → FileFault) (hok : ∀ i, ff i = .none) (all : List Nat) : ∀ files,
    fileLoop ff all files = files.flatMap (fun i => [Ev.outCreate i, Ev.outWrite i]) ++ removeAll all
  | [] => by simp [fileLoop]
  | i :: rest => by simp [fileLoop, hok i, fileLoop_faultfree ff hok all rest]

theorem run_faultfree (n : Nat) (dl : Nat → DlFault) (ff : Nat → FileFault) (h1 : ∀ i, dl i = .none) (h2 : ∀ i, ff i = .none) :
    run .none n dl ff = Ev.lookup :: ((List.range n).flatMap (fun j => [Ev.download j, Ev.tmpCreate j]) ++
      ((List.range n).flatMap (fun i => [Ev.outCreate i, Ev.outWrite i]) ++ removeAll (List.range n))) := by
  simp only [run, downloadLoop_faultfree dl h1, fileLoop_faultfree ff h2, List.nil_append, List.range_eq_range', List.cons_append]

/-- **C16 (requests)**: when nothing fails, the authenticated requests are the cluster lookup followed
    by exactly one log download per host, in host order -/
theorem C16_requests (n : Nat) (dl : Nat → DlFault) (ff : Nat → FileFault)
    (h1 : ∀ i, dl i = .none) (h2 : ∀ i, ff i = .none) :
    requests (run .none n dl ff) = Ev.lookup :: (List.range n).map Ev.download := by
  simp [run_faultfree n dl ff h1 h2, requests, removeAll, List.filter_flatMap, List.filter_map, Function.comp_def, ← List.map_eq_flatMap]

/-- **C16 (outputs)**: when nothing fails, `<outputFile>.<i>` receives the redaction of host i's log,
    for i = 0 … n-1 in order, each exactly once -/
theorem C16_outputs (n : Nat) (dl : Nat → DlFault) (ff : Nat → FileFault)
    (h1 : ∀ i, dl i = .none) (h2 : ∀ i, ff i = .none) :
    outputs (run .none n dl ff) = (List.range n).map Ev.outWrite := by
  simp [run_faultfree n dl ff h1 h2, outputs, removeAll, List.filter_flatMap, List.filter_map, Function.comp_def, ← List.map_eq_flatMap, flatMap_const_nil]

/-- **C16 (window)**: without dates the window is the last seven days ending now, start before end;
    with both dates it is what was given -/
theorem C16_window (now s e : Nat) (hnow : 604800 < now) :
    window now 0 0 = (now - 604800, now) ∧ (window now 0 0).1 < (window now 0 0).2 ∧
    (s ≠ 0 → window now s e = (s, e)) := by
  refine ⟨by simp [window], by simp [window]; omega, ?_⟩
  intro hs; simp [window, hs]

/-- **C16 (hosts)**: one host per member, in order, port stripped -/
theorem C16_hosts (hps : List Str) : (hostsOf hps).length = hps.length ∧
    ∀ i (h : i < hps.length), (hostsOf hps)[i]'(by simp [hostsOf]; exact h) = stripPort hps[i] := by
  simp [hostsOf]

example : stripPort "h1.example.net:27017".toList = "h1.example.net".toList := by
  -- the literals: see the note in Lemmas/Base64.lean
  rw [String.toList_ofList, String.toList_ofList]
  decide

theorem live_append (a b : List Ev) (acc : List Nat) : live (a ++ b) acc = live b (live a acc) := by
  induction a generalizing acc with
  | nil => rfl
  | cons e t ih => cases e <;> simp [live, ih]

theorem live_removeAll (files acc : List Nat) (h : ∀ x ∈ acc, x ∈ files) : live (removeAll files) acc = [] := by
  induction files generalizing acc with
  | nil =>
    cases acc with
    | nil => rfl
    | cons a t => exact absurd (h a (by simp)) (by simp)
  | cons f rest ih =>
    simp only [removeAll, List.map_cons, live]
    apply ih
    intro x hx
    simp only [List.mem_filter, decide_eq_true_eq] at hx
    have := h x hx.1
    simp only [List.mem_cons] at this
    rcases this with e | e
    · exact absurd e hx.2
    · exact e

theorem live_exit (acc : List Nat) (c : Nat) : live [Ev.exit c] acc = acc := rfl

/-- the download loop: after it, either it failed and nothing is alive, or it succeeded and exactly
    the returned files are alive -/
theorem downloadLoop_live (dl : Nat → DlFault) : ∀ n i have_,
    (match downloadLoop dl n i have_ with
     | (t, none) => live t have_ = []
     | (t, some files) => live t have_ = files)
  | 0, i, have_ => by simp [downloadLoop, live]
  | n + 1, i, have_ => by
    cases hd : dl i with
    | none =>
      simp only [downloadLoop, hd]
      have ih := downloadLoop_live dl n (i + 1) (have_ ++ [i])
      rcases hr : downloadLoop dl n (i + 1) (have_ ++ [i]) with ⟨t, r⟩
      rw [hr] at ih
      cases r <;> simpa [live] using ih
    | status | transport | tmpCreate =>
      simp only [downloadLoop, hd, live]; exact live_removeAll have_ have_ (fun _ h => h)
    | bodyCut =>
      simp only [downloadLoop, hd, live]
      apply live_removeAll
      intro x hx
      simp only [List.mem_filter, List.mem_append, List.mem_singleton, decide_eq_true_eq] at hx
      rcases hx.1 with e | e
      · exact e
      · exact absurd e hx.2

/-- the per-file loop removes every downloaded file on every path -/
theorem fileLoop_live (ff : Nat → FileFault) (all : List Nat) : ∀ files, live (fileLoop ff all files) all = []
  | [] => by simp only [fileLoop]; exact live_removeAll all all (fun _ h => h)
  | i :: rest => by
    have ih := fileLoop_live ff all rest
    have hr := live_removeAll all all (fun _ h => h)
    cases hf : ff i <;> simp only [fileLoop, hf, live, live_append, hr, ih]

/-- **C17**: for EVERY number of hosts, every cluster-lookup outcome, every download fault at every
    host and every per-file fault at every file — and on success — no temporary file is alive when the
    trace ends (return or exit) -/
theorem C17_no_leftovers (cf : ClusterFault) (n : Nat) (dl : Nat → DlFault) (ff : Nat → FileFault) :
    live (run cf n dl ff) [] = [] := by
  cases cf with
  | lookupFails => rfl
  | badConnString => rfl
  | none =>
    simp only [run]
    have h := downloadLoop_live dl n 0 []
    rcases hr : downloadLoop dl n 0 [] with ⟨t, r⟩
    rw [hr] at h
    cases r with
    | none => simp only [live, live_append, h]
    | some files => simp only [live, live_append, h]; exact fileLoop_live ff files files

/-- non-vacuity: three hosts, the body of the third is cut: two complete files and one partial file
    existed, none is left -/
example : live (run .none 3 (fun i => if i = 2 then .bodyCut else .none) (fun _ => .none)) [] = [] ∧
    (run .none 3 (fun i => if i = 2 then .bodyCut else .none) (fun _ => .none)).length = 11 := by decide

end Anonymongo.Atlas
