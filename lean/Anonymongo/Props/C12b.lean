/-
  Props/C12b.lean — PROPERTY C12, confinement INSIDE the walkers: the run with --redactNamespaces
  and the run without it (all other settings equal, field-name redaction off) produce trees of the
  same structure whose leaves are equal, except that the flag-on leaf may be the pseudonym of the
  INPUT string at that position.  Nothing else in a command document differs.
  (`Ctx.run_flow`, Lemmas/TwoCfg: the two runs answer every container with the same action, except a document
  under a `Namespace`-typed sub-key.)
-/
import Anonymongo.Lemmas.TwoCfg
import Anonymongo.Lemmas.LeafMode
import Anonymongo.Lemmas.ScalarClass
namespace Anonymongo

/-- input leaf, flag-off leaf, flag-on leaf -/
def NsLeaf (repl : Str) (v o1 o2 : J) : Prop :=
  o2 = o1 ∨ ∃ s, v = .str s ∧ o2 = .str (hashName repl s)

namespace Ctx

theorem nodeFlow_ns (T : Tables) (cfg : Cfg) :
    NodeFlow ⟨T, { cfg with ns := false }, false⟩ ⟨T, { cfg with ns := true }, false⟩ where
  rfn := rfl
  arr s xs := actEq_arr (by cases s <;> rfl)
  obj s kvs := by
    -- the flag is looked at in one place: a document under a `Namespace`-typed sub-key
    cases s with
    | SubVal S k nkp sk sm =>
      rcases sm with _ | (t | m | _)
      · exact actEq_obj rfl
      · cases t with
        | Namespace => exact ActEq.nsDoc
        | _ => exact actEq_obj rfl
      · exact actEq_obj rfl
      · exact actEq_obj rfl
    | _ => exact actEq_obj rfl

theorem nsMode_ns (T : Tables) (cfg : Cfg) (v : J) :
    nsMode ⟨T, { cfg with ns := true }, false⟩ v = nsMode ⟨T, { cfg with ns := false }, false⟩ v ∨
    ∃ x, v = .str x ∧ nsMode ⟨T, { cfg with ns := true }, false⟩ v = .hash x := by
  cases v with
  | str x => exact .inr ⟨x, rfl, rfl⟩
  | _ => exact .inl rfl

theorem leafMode_ns (T : Tables) (cfg : Cfg) (s : St) (v : J) :
    leafMode ⟨T, { cfg with ns := true }, false⟩ s v = leafMode ⟨T, { cfg with ns := false }, false⟩ s v ∨
    ∃ x, v = .str x ∧ leafMode ⟨T, { cfg with ns := true }, false⟩ s v = .hash x := by
  -- the flag is looked at by `nsMode` and, for a stage that names a collection, by `pValScalarMode`
  cases s with
  | PVal S kp k op =>
    simp only [leafMode]
    rcases op with _ | (t | m | _)
    · exact .inl rfl
    · cases t with
      | Namespace => exact nsMode_ns T cfg v
      | _ => exact .inl rfl
    · simp only [pValScalarMode]
      cases nsStage m with
      | false => exact .inl rfl
      | true =>
        cases v with
        | str x => exact .inr ⟨x, rfl, rfl⟩
        | _ => exact .inl rfl
    · exact .inl rfl
  | SubVal S k nkp sk sm =>
    simp only [leafMode]
    rcases sm with _ | (t | m | _)
    · exact .inl rfl
    · cases t with
      | Namespace => exact nsMode_ns T cfg v
      | _ => exact .inl rfl
    · exact .inl rfl
    · exact .inl rfl
  | NsMember => cases v <;> exact .inl rfl
  | _ => exact .inl rfl

end Ctx

/-- **C12 (confined, whole walk)**: from every walker state, for every tree without duplicate sibling keys, the
    output without `--redactNamespaces` and the output with it have the structure of the input and their leaves are
    related by `NsLeaf` -/
theorem C12_confined_walk (T : Tables) (cfg : Cfg) (s : St) (v : J) (hn : v.nodup = true) :
    Ctx.Rel3 (NsLeaf cfg.repl) v
      (Ctx.run ⟨T, { cfg with ns := false }, false⟩ s v)
      (Ctx.run ⟨T, { cfg with ns := true }, false⟩ s v) := by
  apply Ctx.run_flow _ _ (Ctx.nodeFlow_ns T cfg) rfl (NsLeaf cfg.repl) _ (fun v _ => Or.inl rfl) _ s v hn
  · intro s v hv
    rw [Ctx.run_scalar _ s v hv, Ctx.run_scalar _ s v hv]
    rcases Ctx.leafMode_ns T cfg s v with h | ⟨x, hx, h⟩
    · rw [h]
      cases Ctx.leafMode ⟨T, { cfg with ns := false }, false⟩ s v with
      | keep => exact Or.inl rfl
      | hash x => exact Or.inl (by simp [Ctx.H])
      | scalar kp S sel =>
        left
        simp only [Ctx.applyMode_scalar, Ctx.scalar]
        exact redactScalar_ns_indep T cfg true false kp v S sel
    · rw [h]; right; exact ⟨x, hx, by simp [Ctx.H]⟩
  · -- a member of a namespace document: a string becomes its pseudonym, any other scalar is copied
    intro s kvs _ _ v _
    cases v with
    | str x => exact .inr ⟨x, rfl, Ctx.run_of_leaf _ rfl⟩
    | _ => exact .inl (Ctx.run_of_keep _ rfl)

end Anonymongo
