/-
  Props/C15b.lean — PROPERTY C15, plan summary, for index specifications of ANY shape and length
  (`C15_plan_instances`, Props/C15, are worked examples; `C15_plan_general` is the general statement for one scan at the
  start of the summary).
-/
import Anonymongo.Lemmas.PlanGen
import Anonymongo.Props.C15
import Anonymongo.Generated.Tables
namespace Anonymongo

/-- text without the letter `I` holds no index scan and is left alone -/
theorem redactIxscans_no_I (h : Str → Str) : ∀ (fuel : Nat) (s : Str), (∀ c ∈ s, c ≠ 'I') → redactIxscans h fuel s = s
  | 0, _, _ => rfl
  | _ + 1, [], _ => rfl
  | fuel + 1, c :: r, hs => by
    simp only [redactIxscans, matchIxscanHere_noIX c r fun e => absurd e (hs c (by simp))]
    rw [redactIxscans_no_I h fuel r (fun x hx => hs x (by simp [hx]))]

/-- **C15 (plan summary, general)**: a summary that starts with an index scan `IXSCAN <spaces> { m₁, …, mₙ } rest`
    over ANY number of well-formed members (spaces, key, spaces, `:`, direction; no `,` / `}` inside a member) is
    rewritten to the same text with every key replaced WHERE IT STANDS by `h key` — each key by its own pseudonym,
    whatever the other keys are (prefixes of one another, equal to parts of a pseudonym, …) — spacing, directions
    and separators kept; `rest` is treated the same way (and is unchanged when it holds no further scan). -/
theorem C15_plan_general (h : Str → Str) (ws : Str) (ms : List IndexMember) (rest : Str)
    (hws : ∀ c ∈ ws, isReSpace c = true) (hne : ms ≠ [])
    (hcomma : ∀ m ∈ ms, ∀ c ∈ m.text, c ≠ ',') (hbrace : ∀ m ∈ ms, ∀ c ∈ m.text, c ≠ '}') :
    redactPlanWith h (planText ws ms rest) =
      sIXSCAN ++ ws ++ '{' :: (intercalate [','] (ms.map (IndexMember.redacted h)) ++ '}' :: redactIxscans h (planText ws ms rest).length rest) := by
  have hcoll : planText ws ms rest ≠ sCOLLSCAN := fun e => by
    have h1 : (planText ws ms rest).head? = some 'I' := by simp [planText, sIXSCAN]
    rw [e] at h1; revert h1; decide
  unfold redactPlanWith
  rw [if_neg hcoll]
  exact redactIxscans_scan h _ ws ms rest hws hne hcomma hbrace

/-- non-vacuity: ` userId : -1` is a well-formed member -/
def exampleMember : IndexMember where
  ws1 := " ".toList
  key := "userId".toList
  ws2 := " ".toList
  dir := " -1 ".toList
  key_ne := by decide
  ws1_sp := by decide
  ws2_sp := by decide
  key_first := by decide
  key_last := by decide
  key_nocolon := by decide

example : exampleMember.text = " userId : -1 ".toList ∧ exampleMember.redacted markName = " <userId> : -1 ".toList := by
  -- the literals: see the note in Lemmas/Base64.lean
  rw [String.toList_ofList, String.toList_ofList]
  decide

/-- instance: the compound index `IXSCAN { user: 1, userId: -1 }` (a key that is a prefix of a later key) -/
example : redactPlanWith markName "IXSCAN { user: 1, userId: -1 }".toList = "IXSCAN { <user>: 1, <userId>: -1 }".toList := by
  rw [String.toList_ofList, String.toList_ofList]
  decide +kernel

/-- **bare operator keys** (obligation on the REGENERATED core table): the only keys of the core operator table that do
    not start with `$` - and that a user field of the same name is therefore mistaken for under `--redactFieldNames`
    (recorded known finding) - are `if`, `then`, `else`; a new bare key would silently exempt every user field of that name -/
theorem C15_bare_core_keys :
    ((Generated.tables.core.filter fun p => !dollarPrefixed p.1).map (·.1)) = ["if".toList, "then".toList, "else".toList] := by
  decide +kernel

end Anonymongo
