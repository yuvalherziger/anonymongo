/-
  Props/C13.lean — PROPERTY C13: pseudonyms are a stable, component-wise, well-formed function of
  the name (and collision-free up to a collision of SHA-256 truncated to 8 bytes).
-/
import Anonymongo.Lemmas.Hash
namespace Anonymongo

/-- **C13 (form)**: every component of a pseudonym is `<replacement>_<16 lower-case hex digits>` -/
theorem C13_form (r part : Str) :
    ∃ h : Str, hashPart r part = r ++ ['_'] ++ h ∧ h.length = 16 ∧ h.all isLowerHex = true :=
  ⟨hex16 (sha256 (utf8 part)), rfl, hex16_length _ (by rw [sha256_length]; omega), hex16_lower _⟩

/-- **C13 (path depth)**: a pseudonym consists of exactly one block per dotted component of the
    name, joined by '.' -/
theorem C13_depth (r name : Str) :
    ∃ blocks : List Str, hashName r name = intercalate ['.'] blocks ∧
      blocks.length = (splitOn '.' (trimLeftDollar name)).length ∧
      ∀ b ∈ blocks, ∃ part, b = hashPart r part :=
  ⟨(splitOn '.' (trimLeftDollar name)).map (hashPart r), rfl, by simp, by
    intro b hb; simp only [List.mem_map] at hb; obtain ⟨p, _, hp⟩ := hb; exact ⟨p, hp.symm⟩⟩

/-- **C13 (leading '$')**: a leading '$' does not change the result -/
theorem C13_dollar (r name : Str) : hashName r ('$' :: name) = hashName r name := by
  simp [hashName, trimLeftDollar]

/-- nothing is asked of `a`: the `$`s in front of it are dropped on both sides -/
theorem hashName_append_dot (r a b : Str) (hb : dollarPrefixed b = false) :
    hashName r (a ++ '.' :: b) = hashName r a ++ ['.'] ++ hashName r b := by
  unfold hashName
  rw [trimLeftDollar_append_dot, trimLeftDollar_of_not_dollar _ hb, splitOn_append, List.map_append]
  exact intercalate_append _ _ _ (by simp [splitOn_ne_nil]) (by simp [splitOn_ne_nil])

/-- **C13 (component-wise)**: 'db.coll' is mapped to 'P(db).P(coll)' -/
theorem C13_componentwise (r a b : Str) (ha : dollarPrefixed a = false) (hb : dollarPrefixed b = false) :
    hashName r (a ++ '.' :: b) = hashName r a ++ ['.'] ++ hashName r b :=
  hashName_append_dot r a b hb

/-- **C13 (collisions)**: two components receive the same pseudonym exactly when the first 8 bytes
    of their SHA-256 digests agree — for every replacement text. "Different components always
    receive different pseudonyms" is therefore true up to a collision of truncated SHA-256 and
    cannot be proved absolutely (2^64 outputs). -/
theorem C13_inj_mod (r a b : Str) :
    hashPart r a = hashPart r b ↔ hex16 (sha256 (utf8 a)) = hex16 (sha256 (utf8 b)) := by
  simp [hashPart]

/-- **C13 (stability)**: the pseudonym is a function of (replacement, name) only — the model has no
    other input; that the Go side table `RedactedFieldMapping` is write-only is checked by the
    correspondence (two processes, permuted call orders). -/
theorem C13_pure (r n : Str) (r' n' : Str) (h1 : r = r') (h2 : n = n') : hashName r n = hashName r' n' := by
  subst h1; subst h2; rfl

example : hashName "R".toList "$a.b".toList = hashName "R".toList "a".toList ++ ['.'] ++ hashName "R".toList "b".toList := by
  have e : "$a.b".toList = '$' :: ("a".toList ++ '.' :: "b".toList) := by decide
  rw [e, C13_dollar]
  exact C13_componentwise _ _ _ (by decide) (by decide)

end Anonymongo
