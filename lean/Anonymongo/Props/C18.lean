/-
  Props/C18.lean — PROPERTY C18: `redact` accepts exactly the well-defined jobs; rejections have
  no side effects.  The quantifier is finite (2^13 presence/absence combinations), so exactness
  and the modes are decided exhaustively INSIDE the kernel; the clean rejection is read off `effects`.
-/
import Anonymongo.Spec.CliRules
namespace Anonymongo.Cli

def isAccept : Decision → Bool
  | .accept _ => true
  | .reject _ => false

/-- what C18 asks of the mode an accepted job enters, as a test on the flags -/
def modesOK (f : Flags) : Bool :=
  match validate f with
  | .accept .file => f.file && !f.stdin && !Spec.atlasRequested f
  | .accept .stdin => f.stdin && !f.file && !Spec.atlasRequested f
  | .accept .atlas => Spec.atlasRequested f && !f.file && !f.stdin && f.project && f.cluster && f.out &&
      (f.pub || f.env) && (f.priv || f.env)
  | .reject _ => true

/-- `∀ b : Bool` as a Bool, so that a sweep is one Bool for the kernel to evaluate -/
def allB (p : Bool → Bool) : Bool := p false && p true

theorem allB_iff {p : Bool → Bool} : allB p = true ↔ ∀ b, p b = true := by
  simp [allB, Bool.forall_bool]

theorem sweep : (allB fun a => allB fun b => allB fun c => allB fun d => allB fun e => allB fun f => allB fun g =>
    allB fun h => allB fun i => allB fun j => allB fun k => allB fun l => allB fun m =>
      let fl : Flags := ⟨a, b, c, d, e, f, g, h, i, j, k, l, m⟩
      isAccept (validate fl) == Spec.wellDefined fl && modesOK fl) = true := by decide +kernel

theorem exact_and_modes (fl : Flags) : isAccept (validate fl) = Spec.wellDefined fl ∧ modesOK fl = true := by
  obtain ⟨a, b, c, d, e, f, g, h, i, j, k, l, m⟩ := fl
  have := sweep
  simp only [allB_iff, Bool.and_eq_true, beq_iff_eq] at this
  exact this a b c d e f g h i j k l m

/-- **C18 (exactness)**: the command runs iff the arguments describe one well-defined job -/
theorem C18_exact (f : Flags) : isAccept (validate f) = Spec.wellDefined f := (exact_and_modes f).1

/-- **C18 (clean rejection)**: a rejection decided from the flags has no side effect beyond the
    message and the exit status: no output file, no key file, no network request -/
theorem C18_clean (f : Flags) (h : isAccept (validate f) = false) : Spec.cleanRejection (effects f) = true := by
  -- `effects` says so in its first branch
  unfold effects
  cases hv : validate f with
  | reject n => rfl
  | accept m => rw [hv] at h; cases h

/-- **C18 (modes)**: an accepted job enters exactly one mode, and Atlas mode only with
    project, cluster, output file and a key pair -/
theorem C18_modes (f : Flags) : modesOK f = true := (exact_and_modes f).2

/-- non-vacuity: both outcomes occur -/
example : isAccept (validate ⟨true, false, true, true, false, false, false, false, false, false, false, false, false⟩) = true := by decide
example : isAccept (validate ⟨false, false, true, false, false, false, false, false, true, false, false, false, false⟩) = false := by decide

end Anonymongo.Cli
