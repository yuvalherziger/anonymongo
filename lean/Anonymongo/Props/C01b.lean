/-
  Props/C01b.lean — PROPERTY C01 for whole trees: `C01_tree` is `Ctx.aud_run` (Lemmas/Audit) with the verdict on one leaf,
  `Ctx.leafOK_run`; `C01_tree_whitelisted` puts in the regenerated tables.
  The `Sublist` of `Excuse.table` is deliberately weak: any entry whose table path occurs, in order, among the keys above
  the leaf excuses it, wherever those keys stand.
-/
import Anonymongo.Lemmas.Audit
import Anonymongo.Lemmas.Prov
import Anonymongo.Lemmas.ModeChar
import Anonymongo.Props.C01
import Anonymongo.Props.C05
namespace Anonymongo
namespace Ctx

/-- what the states carry: their operator meta really is a lookup result for their key path -/
def Inv (c : Ctx) : St → Prop
  | .PVal _ kp k op => ProvAt c.T (kp ++ [k]) op
  | .SubVal _ _ nkp sk sm => ProvAt c.T (nkp ++ [sk]) sm
  | .QVal _ co _ nkp => nkp ≠ [] ∧ ProvAt c.T nkp co
  | _ => True

/-- why the walker may copy what is in front of it -/
inductive Excuse (c : Ctx) : St → Prop
  | table (s : St) (tb : Spec.TableId) (p : List Str) (t : OpT) :
      keepTy t = true → (p, t) ∈ Spec.entries [] (tbl c.T tb) → p.Sublist (names s) → Excuse c s
  | emptyKey (s : St) (tb : Spec.TableId) (t : OpT) : ([[]], t) ∈ Spec.entries [] (tbl c.T tb) → Excuse c s
  | nsMember : Excuse c .NsMember
  | zq : Excuse c .ZQ
  | zu : Excuse c .ZU
  | za : Excuse c .ZA
  | zp : Excuse c .ZP
  | zop : Excuse c .ZOp
  | zops : Excuse c .ZOps
  | outside : Excuse c .Keep

inductive MayKeep (c : Ctx) (s : St) : J → Prop
  | null : MayKeep c s .null
  | dollar (x : Str) : dollarPrefixed x = true → MayKeep c s (.str x)
  | numOff (l : Str) : c.cfg.nums = false → MayKeep c s (.num l)
  | boolOff (b : Bool) : c.cfg.bools = false → MayKeep c s (.bool b)
  | subType (a : J) : lastD (names s) = sSubType → grandParent (names s) = sBinary → MayKeep c s a
  | excuse (a : J) : Excuse c s → MayKeep c s a

/-- the key path handed to `redactScalarValue` in a state: the accumulated path, or the parent key
    alone (array walker), or the empty key (stage walker on array elements) -/
def PathOf (s : St) (kp : List Str) : Prop :=
  kp = names s ∨ kp = [[]] ∨ ∃ pk, kp = [pk] ∧ [pk].Sublist (names s)

/-- the verdict on one scalar leaf: a pseudonym, or the placeholder of the leaf's class — the class being judged under the
    key path of THIS position (`PathOf`) —, or the leaf itself with a reason -/
def LeafOK (c : Ctx) (s : St) (a b : J) : Prop :=
  (∃ x, b = .str (c.H x)) ∨
  (∃ kp, PathOf s kp ∧ secretClass c.cfg (classOf kp a) = true ∧ b = placeholderOf c.T c.cfg a (classOf kp a)) ∨
  (b = a ∧ MayKeep c s a)

theorem inv_pObj (c : Ctx) (hre : c.cfg.re = none) (S : Bool) (kp : List Str) (k : Str) (x : J) : Inv c (c.pObj S kp k x).2 := by
  simp only [pObj, Inv, augment_none c hre]
  exact getOp_prov c.T (kp ++ [k]) S (by simp)

theorem inv_qObj (c : Ctx) (S : Bool) (pc : Option Meta) (kp : List Str) (hpc : ProvAt c.T kp pc) (k : Str) (x : J) :
    Inv c (c.qObj S pc kp k x).2 := by
  simp only [qObj, Inv, qOp]
  refine ⟨by simp, ?_⟩
  split
  · rename_i pm
    exact provAt_sub c.T kp pm k hpc
  · exact provAt_top c.T .core _ k (List.sublist_append_right kp [k])

theorem provAt_qParent (T : Tables) (kp : List Str) (co : Option Meta) (h : ProvAt T kp co) : ProvAt T kp (qParent co) := by
  unfold qParent
  split
  · trivial
  · exact h

theorem inv_opZone (c : Ctx) (hi : Bool) (k : Str) : Inv c (opZone hi k) :=
  opZone_ind (P := Inv c) trivial trivial trivial trivial trivial hi k

theorem inv_obj (c : Ctx) (hre : c.cfg.re = none) (s : St) (kvs : List (Str × J)) (f : Str → J → Str × St)
    (hi : Inv c s) (hf : c.node s (.obj kvs) = .obj f) : ∀ k x, Inv c (f k x).2 := by
  intro k x
  cases node_obj_child c hf with
  | p _ S kp => exact inv_pObj c hre S kp k x
  | qTop _ S kp => exact inv_qObj c S none kp (provAt_none _ _) k x
  | q S co _ nkp => exact inv_qObj c S (qParent co) nkp (provAt_qParent c.T nkp co hi.2) k x
  | sub S kp k' m => exact provAt_sub c.T (kp ++ [k']) m k hi
  | facet | nsDoc => trivial
  | zone _ hi' => exact inv_opZone c hi' k

theorem inv_arr (c : Ctx) (s : St) (xs : List J) (s' : St) (hf : c.node s (.arr xs) = .arr s') : Inv c s' := by
  cases node_arr_inv c hf <;> trivial

theorem leafOK_scalar (c : Ctx) (hre : c.cfg.re = none) (hplain : c.cfg.enc = none) (s : St) (a : J) (ha : a.isScalar = true)
    (kp : List Str) (S sel : Bool) (hne : kp ≠ []) (hkp : PathOf s kp) : LeafOK c s a (c.scalar kp a S sel) := by
  unfold scalar
  rw [C05_class c.T c.cfg hplain, keptByPath_re_none c.T c.cfg kp hre]
  by_cases hex : isTy? (getOp c.T kp S) .Exempt = true
  · -- handed back because of the key path: a table entry typed Exempt along the path
    simp only [hex, if_true]
    right; right; refine ⟨rfl, .excuse a ?_⟩
    have hp := getOp_prov c.T kp S hne
    have hop := isTy?_eq _ _ hex
    rw [hop] at hp
    obtain ⟨tb, p, hmem, hsub⟩ := hp
    rcases hkp with rfl | rfl | ⟨pk, rfl, hpk⟩
    · exact .table s tb p _ (by decide) hmem hsub
    · -- a non-empty sublist of `[[]]` is `[[]]`
      have hl := entries_length_lt _ [] p _ hmem
      cases hsub with
      | cons _ h => cases h; cases hl
      | cons_cons _ h => cases h; exact .emptyKey s tb _ hmem
    · exact .table s tb p _ (by decide) hmem (hsub.trans hpk)
  · rw [if_neg hex]
    by_cases hsec : secretClass c.cfg (classOf kp a) = true
    · right; left; exact ⟨kp, hkp, hsec, rfl⟩
    · right; right
      obtain ⟨he, h | rfl | ⟨l, rfl, h⟩ | ⟨b, rfl, h⟩⟩ := classOf_not_secret c.T c.cfg kp a ha hsec
      · refine ⟨he, ?_⟩
        rcases hkp with rfl | rfl | ⟨pk, rfl, _⟩
        · exact .subType a h.1 h.2
        · exact absurd h.2 (grandParent_single _)
        · exact absurd h.2 (grandParent_single _)
      · exact ⟨he, .null⟩
      · exact ⟨he, .numOff l h⟩
      · exact ⟨he, .boolOff b h⟩

theorem inv_prov (c : Ctx) (s : St) (hi : Inv c s) : ProvAt c.T (names s) (stMeta s) := by
  cases s with
  | PVal | SubVal => exact hi
  | QVal => exact hi.2
  | _ => trivial

theorem excuse_of_keepMeta (c : Ctx) (s : St) (hi : Inv c s) (hk : keepMeta (stMeta s) = true) : Excuse c s := by
  obtain ⟨t, ht, hkt⟩ := keepMeta_inv _ hk
  obtain ⟨tb, p, hp, hs⟩ : ProvAt c.T (names s) (some (.ty t)) := ht ▸ inv_prov c s hi
  exact .table s tb p t hkt hp hs

theorem excuse_of_not_walker (c : Ctx) (s : St) (hw : walker s = false) : Excuse c s := by
  cases s with
  | NsMember => exact .nsMember
  | ZQ => exact .zq
  | ZU => exact .zu
  | ZA => exact .za
  | ZP => exact .zp
  | ZOp => exact .zop
  | ZOps => exact .zops
  | Keep => exact .outside
  | _ => cases hw

theorem excuse_of_keep (c : Ctx) (s : St) (v : J) (hi : Inv c s) (hv : v.isScalar = false) (h : c.node s v = .keep) :
    Excuse c s :=
  (node_keep c hv h).elim (excuse_of_keepMeta c s hi) (excuse_of_not_walker c s)

theorem mayKeep_of_leafMode_keep (c : Ctx) (s : St) (hi : Inv c s) (a : J)
    (hm : c.leafMode s a = .keep) : MayKeep c s a := by
  rcases leafMode_inv c s a _ hm with rfl | ⟨x, rfl, hd⟩ | hk | hw
  · exact .null
  · exact .dollar x hd
  · exact .excuse _ (excuse_of_keepMeta c s hi hk)
  · exact .excuse _ (excuse_of_not_walker c s hw)

/-- the three forms of a call (`CallAt`) are the three cases of `PathOf` -/
theorem pathOf_of_leafMode_scalar (c : Ctx) (hrfn : c.rfn = false) (s : St) (hi : Inv c s) (a : J) (kp : List Str) (S sel : Bool)
    (hm : c.leafMode s a = .scalar kp S sel) : kp ≠ [] ∧ PathOf s kp := by
  cases (callOf_inv c (scalar_call c hrfn s a kp S sel hm)).2 with
  | path _ hne =>
    refine ⟨?_, .inl rfl⟩
    rcases hne with h | ⟨_, _, _, _, rfl⟩
    · exact h
    · exact hi.1
  | elem => exact ⟨List.cons_ne_nil _ _, .inr (.inl rfl)⟩
  | arr pk kp' h => exact ⟨List.cons_ne_nil _ _, .inr (.inr ⟨pk, rfl, h ▸ List.sublist_append_right kp' [pk]⟩)⟩

/-- **every scalar leaf gets the verdict** -/
theorem leafOK_run (c : Ctx) (hre : c.cfg.re = none) (hrfn : c.rfn = false) (hplain : c.cfg.enc = none)
    (s : St) (a : J) (hi : Inv c s) (ha : a.isScalar = true) : LeafOK c s a (c.run s a) := by
  rw [run_scalar c s a ha]
  cases hm : c.leafMode s a with
  | hash x => exact Or.inl ⟨x, rfl⟩
  | keep => exact Or.inr (Or.inr ⟨rfl, mayKeep_of_leafMode_keep c s hi a hm⟩)
  | scalar kp S sel =>
    have ⟨hne, hp⟩ := pathOf_of_leafMode_scalar c hrfn s hi a kp S sel hm
    exact leafOK_scalar c hre hplain s a ha kp S sel hne hp

end Ctx

/-- **C01, whole trees**: full-redaction mode (`re = none`), placeholder mode, field-name redaction off
    (any of --redactNumbers / --redactBooleans / --redactNamespaces, any replacement text), ANY operator
    tables.  From every walker state whose operator meta is a genuine lookup result (`Inv`; every zone
    state is), for every tree without duplicate sibling keys: every scalar leaf gets `LeafOK` and every
    container copied as a whole has an `Excuse`. -/
theorem C01_tree (c : Ctx) (hre : c.cfg.re = none) (hrfn : c.rfn = false) (hplain : c.cfg.enc = none)
    (s : St) (hi : c.Inv s) (v : J) (hn : v.nodup = true) :
    c.Aud (c.LeafOK) (fun s _ => c.Excuse s) s v (c.run s v) :=
  Ctx.aud_run c hrfn c.Inv (Ctx.inv_obj c hre) (fun s xs s' _ hf => Ctx.inv_arr c s xs s' hf)
    c.LeafOK (Ctx.leafOK_run c hre hrfn hplain)
    (fun s _ => c.Excuse s)
    (fun s kvs hi h => Ctx.excuse_of_keep c s (.obj kvs) hi rfl h)
    (fun s xs hi h => Ctx.excuse_of_keep c s (.arr xs) hi rfl h)
    s v hi hn

/-- every zone a command key opens starts in a state that satisfies the invariant -/
theorem C01_zone_inv (c : Ctx) (hi hb : Bool) (k : Str) : c.Inv (Ctx.zoneState hi hb k) :=
  Ctx.zoneState_ind trivial trivial (Ctx.inv_opZone c) hi hb k

/-- no regenerated table has an entry under the empty key (so the array walker's empty parent key
    can never pick up a classification) — kernel-decided -/
theorem Gen_no_empty_key :
    ∀ tb : Spec.TableId, ((Spec.entries [] (tbl Generated.tables tb)).all fun e => e.1 != [[]]) = true := by
  intro tb; cases tb <;> decide +kernel

theorem Gen_allowed (tb : Spec.TableId) (p : List Str) (t : OpT)
    (h : (p, t) ∈ Spec.entries [] (tbl Generated.tables tb)) : Spec.allowed tb p t = true := by
  have hall : Spec.tableOK tb (tbl Generated.tables tb) = true := by
    obtain ⟨h1, h2, h3, h4, h5⟩ := C01_tables
    -- each table by its own hypothesis: `cases tb <;> assumption` compares every hypothesis with every table and
    -- runs into the recursion limit
    cases tb
    · exact h1
    · exact h2
    · exact h3
    · exact h4
    · exact h5
  unfold Spec.tableOK at hall
  rw [List.all_eq_true] at hall
  exact hall (p, t) h

/-- what an excuse amounts to for the real tables -/
inductive Whitelisted (s : St) : Prop
  | param (tb : Spec.TableId) (p : List Str) (t : OpT) :
      Ctx.keepTy t = true → Spec.allowed tb p t = true → p.Sublist (Ctx.names s) → Whitelisted s
  | nsMember : s = .NsMember → Whitelisted s
  | notInZone : (s = .ZQ ∨ s = .ZU ∨ s = .ZA ∨ s = .ZP ∨ s = .ZOp ∨ s = .ZOps ∨ s = .Keep) → Whitelisted s

theorem excuse_whitelisted (c : Ctx) (hT : c.T = Generated.tables) (s : St) (h : c.Excuse s) : Whitelisted s := by
  cases h with
  | table _ tb p t ht hmem hsub => exact .param tb p t ht (Gen_allowed tb p t (hT ▸ hmem)) hsub
  | emptyKey _ tb t hmem =>
    have := List.all_eq_true.1 (Gen_no_empty_key tb) _ (hT ▸ hmem)
    simp at this
  | nsMember => exact .nsMember rfl
  | _ => exact .notInZone (by simp)

/-- **C01, whole trees, real tables**: as `C01_tree`, and every excuse is a whitelisted operational
    parameter on the leaf's own key path (or a namespace-document member / a position outside the zones) -/
theorem C01_tree_whitelisted (c : Ctx) (hT : c.T = Generated.tables) (hre : c.cfg.re = none) (hrfn : c.rfn = false)
    (hplain : c.cfg.enc = none) (s : St) (hi : c.Inv s) (v : J) (hn : v.nodup = true) :
    c.Aud (c.LeafOK) (fun s _ => c.Excuse s) s v (c.run s v) ∧ (∀ s', c.Excuse s' → Whitelisted s') :=
  ⟨C01_tree c hre hrfn hplain s hi v hn, fun s' h => excuse_whitelisted c hT s' h⟩

/-- non-vacuity / worked instance: in `{$match: {name: "S", n: {$gt: 5}}}, {$limit: 10}` the string is replaced,
    the number is kept (flag off) and `$limit`'s argument is kept under the whitelisted entry `$limit` -/
example : let c : Ctx := ⟨Generated.tables, ⟨"R".toList, false, false, false, false, none, none⟩, false⟩
    J.beq (c.run .ZP (.arr [.obj [("$match".toList, .obj [("name".toList, .str "S".toList), ("n".toList, .obj [("$gt".toList, .num "5".toList)])])],
                             .obj [("$limit".toList, .num "10".toList)]]))
      (.arr [.obj [("$match".toList, .obj [("name".toList, .str "R".toList), ("n".toList, .obj [("$gt".toList, .num "5".toList)])])],
             .obj [("$limit".toList, .num "10".toList)]]) = true ∧
    Spec.allowed .agg ["$limit".toList] .Exempt = true := by
  decide +kernel

end Anonymongo
