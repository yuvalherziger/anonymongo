/-
  Props/C15c.lean — PROPERTY C15, plan summary with ANY number of index scans ANYWHERE: the text is  pre₁ SCAN₁ … preₙ SCANₙ tail
  (`planOf`); the texts between / around the scans hold no `IX`, so nothing in them can be mistaken for the start of a scan
  (`FETCH`, `IDHACK`, `SORT_MERGE`, `COUNT_SCAN`, commas, parentheses … are allowed).  The general theorem is
  `redactPlanWith_planOf`; the two hypotheses about `X` in `C15_plan_all` are not needed: a scan ends in `}`, so what stands
  after it may start with `X`.
-/
import Anonymongo.Props.C15b
namespace Anonymongo

def noIX : Str → Bool
  | a :: b :: r => !(a = 'I' && b = 'X') && noIX (b :: r)
  | _ => true

/-- a stretch of text without `IX`, followed by text that does not start with `X`, is copied -/
theorem redactIxscans_pre (h : Str → Str) : ∀ (pre t : Str) (fuel : Nat), noIX pre = true → t.head? ≠ some 'X' →
    redactIxscans h (pre.length + fuel) (pre ++ t) = pre ++ redactIxscans h fuel t
  | [], t, fuel, _, _ => by simp
  | c :: pre, t, fuel, hp, ht => by
    have ⟨hx, htl⟩ : (c = 'I' → (pre ++ t).head? ≠ some 'X') ∧ noIX pre = true := by
      cases pre with
      | nil => exact ⟨fun _ => ht, rfl⟩
      | cons d pre' => simpa [noIX, Decidable.imp_iff_not_or] using hp
    have hm : matchIxscanHere (c :: (pre ++ t)) = none := matchIxscanHere_noIX c _ hx
    rw [List.length_cons, Nat.add_right_comm]
    simp only [List.cons_append, redactIxscans, hm, redactIxscans_pre h pre t fuel htl ht]

/-- one index scan with the text in front of it -/
structure Scan where
  pre : Str
  ws : Str
  ms : List IndexMember

def Scan.wf (s : Scan) : Prop :=
  noIX s.pre = true ∧ (∀ c ∈ s.ws, isReSpace c = true) ∧ s.ms ≠ [] ∧
  (∀ m ∈ s.ms, ∀ c ∈ m.text, c ≠ ',') ∧ (∀ m ∈ s.ms, ∀ c ∈ m.text, c ≠ '}')

def planOf : List Scan → Str → Str
  | [], tail => tail
  | s :: rest, tail => s.pre ++ planText s.ws s.ms (planOf rest tail)

/-- the same text with every key replaced where it stands -/
def planRedacted (h : Str → Str) : List Scan → Str → Str
  | [], tail => tail
  | s :: rest, tail =>
    s.pre ++ (sIXSCAN ++ s.ws ++ '{' :: (intercalate [','] (s.ms.map (IndexMember.redacted h)) ++ '}' :: planRedacted h rest tail))

theorem planOf_head_ne_X (scans : List Scan) (tail : Str) (ht : tail.head? ≠ some 'X')
    (hp : ∀ s ∈ scans, s.pre.head? ≠ some 'X') : (planOf scans tail).head? ≠ some 'X' := by
  cases scans with
  | nil => exact ht
  | cons s rest =>
    simp only [planOf]
    cases hpre : s.pre with
    | nil => simp [planText, sIXSCAN]
    | cons c r =>
      have := hp s (by simp)
      rw [hpre] at this
      simpa using this

theorem redactIxscans_planOf (h : Str → Str) : ∀ (scans : List Scan) (tail : Str) (fuel : Nat),
    (∀ s ∈ scans, s.wf) → noIX tail = true → (planOf scans tail).length ≤ fuel →
    redactIxscans h fuel (planOf scans tail) = planRedacted h scans tail
  | [], tail, fuel, _, htl, hf => by
    simp only [planOf, planRedacted] at hf ⊢
    obtain ⟨k, rfl⟩ := Nat.exists_eq_add_of_le hf
    have := redactIxscans_pre h tail [] k htl (by simp)
    simpa [redactIxscans_nil] using this
  | s :: rest, tail, fuel, hwf, htl, hf => by
    obtain ⟨hpre, hws, hne, hcomma, hbrace⟩ := hwf s (by simp)
    simp only [planOf, planRedacted] at hf ⊢
    have hlen := planText_length s.ws s.ms (planOf rest tail)
    simp only [List.length_append] at hf
    obtain ⟨k, rfl⟩ : ∃ k, fuel = s.pre.length + (k + 1) := ⟨fuel - s.pre.length - 1, by omega⟩
    rw [redactIxscans_pre h s.pre _ (k + 1) hpre (by simp [planText, sIXSCAN])]
    congr 1
    rw [redactIxscans_scan h k s.ws s.ms _ hws hne hcomma hbrace]
    rw [redactIxscans_planOf h rest tail k (fun x hx => hwf x (by simp [hx])) htl (by omega)]

/-- **C15 (plan summary, any sufficient fuel)**: `redactIxscans_planOf` with two hypotheses it does not need -/
theorem redactIxscans_plan (h : Str → Str) : ∀ (scans : List Scan) (tail : Str) (fuel : Nat),
    (∀ s ∈ scans, s.wf) → (∀ s ∈ scans, s.pre.head? ≠ some 'X') → noIX tail = true → tail.head? ≠ some 'X' →
    (planOf scans tail).length ≤ fuel →
    redactIxscans h fuel (planOf scans tail) = planRedacted h scans tail :=
  fun scans tail fuel hwf _ htl _ hf => redactIxscans_planOf h scans tail fuel hwf htl hf

theorem redactPlanWith_planOf (h : Str → Str) (scans : List Scan) (tail : Str) (hwf : ∀ s ∈ scans, s.wf) (htl : noIX tail = true) :
    redactPlanWith h (planOf scans tail) = planRedacted h scans tail := by
  unfold redactPlanWith
  split
  · -- the text is literally COLLSCAN: it holds no '{', so there is no scan, and it is returned as it is
    rename_i hc
    cases scans with
    | nil => rfl
    | cons s rest =>
      exfalso
      have hmem : '{' ∈ planOf (s :: rest) tail := by simp [planOf, planText]
      rw [hc] at hmem
      revert hmem; decide
  · exact redactIxscans_planOf h scans tail _ hwf htl (by omega)

/-- **C15 (plan summary, every scan of every summary)**: for a summary  pre₁ SCAN₁ … preₙ SCANₙ tail  whose scans are
    well-formed and whose other text holds no `IX` (and does not start with `X`), `redactFieldNamesFromPlanSummary` returns
    the same text with every key of every scan replaced WHERE IT STANDS by its own pseudonym — whatever the keys are
    (prefixes of one another, equal across scans, equal to parts of a pseudonym) — and leaves spacing, directions,
    separators, stage names and everything between the scans untouched. -/
theorem C15_plan_all (h : Str → Str) (scans : List Scan) (tail : Str)
    (hwf : ∀ s ∈ scans, s.wf) (hpx : ∀ s ∈ scans, s.pre.head? ≠ some 'X') (htl : noIX tail = true) (htx : tail.head? ≠ some 'X') :
    redactPlanWith h (planOf scans tail) = planRedacted h scans tail :=
  redactPlanWith_planOf h scans tail hwf htl

/-- instance: a fetch over two scans joined by an OR stage, with a key shared by both -/
example : redactPlanWith markName "FETCH, OR { IXSCAN { user: 1, userId: -1 }, IXSCAN {userId:1} } IDHACK".toList =
    "FETCH, OR { IXSCAN { <user>: 1, <userId>: -1 }, IXSCAN {<userId>:1} } IDHACK".toList := by
  -- the literals: see the note in Lemmas/Base64.lean
  rw [String.toList_ofList, String.toList_ofList]
  decide +kernel

example : noIX "FETCH, OR { ".toList = true ∧ noIX " } IDHACK DISTINCT_SCAN TEXT".toList = true := by
  rw [String.toList_ofList, String.toList_ofList]
  decide

end Anonymongo
