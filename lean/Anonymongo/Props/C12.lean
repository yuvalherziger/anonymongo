/-
  Props/C12.lean — PROPERTY C12: namespace pseudonymisation is complete (attr.ns; the namespace fields of every command
  document, of the command under `explain` and of the `nsInfo` elements; the Namespace-typed stage arguments) and consistent
  (`C12_componentwise`, from C13).  Confinement: outside the namespace positions `C04_attr_frame`, `C04_flags`,
  `C04_cmd_frame` hold for every flag set; inside the zones it is `C12_confined_walk` (Props/C12b).
-/
import Anonymongo.Props.C04
import Anonymongo.Props.C13
namespace Anonymongo

/-- **C12 (attr.ns on every line)** -/
theorem C12_attr_ns (T : Tables) (cfg : Cfg) (hw : cfg.ns = true) (eager : List Str) (plan : Str → Str → Str) (g : Bool)
    (attr : List (Str × J)) (s : Str) (h : lookup sNs attr = some (.str s)) :
    lookup sNs (redactAttr T cfg eager plan g attr) = some (.str (hashName cfg.repl s)) := by
  unfold redactAttr
  rw [lookup_redactAttrWith, h, attrFn_ns]
  simp [hw]

/-- on a gated line each of the three command attributes holding a document goes through `cmdDoc` -/
theorem C12_cmd_attrs (T : Tables) (cfg : Cfg) (eager : List Str) (plan : Str → Str → Str)
    (attr : List (Str × J)) (k : Str) (hk : cmdKeys.contains k = true) (cmd : List (Str × J))
    (h : lookup k attr = some (.obj cmd)) :
    ∃ c : Ctx, c.T = T ∧ c.cfg = cfg ∧
      lookup k (redactAttr T cfg eager plan true attr) = some (c.cmdDoc (.obj cmd)) := by
  refine ⟨{ T := T, cfg := cfg, rfn := eager.any fun p => isPrefix p (strOrEmpty (lookup sNs attr)) }, rfl, rfl, ?_⟩
  unfold redactAttr
  rw [lookup_redactAttrWith, h, attrFn_cmd _ _ _ _ _ _ _ k hk]
  rfl

/-- **C12 (command fields)**: with the flag on, `cmdDoc` turns the string value of every searched
    field into its pseudonym -/
theorem C12_cmd_fields (c : Ctx) (hw : c.cfg.ns = true) (cmd : List (Str × J)) (k : Str) (s : Str)
    (hk : c.T.searchedFields.contains k = true) (hk1 : k ≠ sExplain) (hk2 : k ≠ sNsInfo) (h : lookup k cmd = some (.str s)) :
    ∃ out, c.cmdDoc (.obj cmd) = .obj out ∧ lookup k out = some (.str (c.H s)) := by
  refine ⟨c.redactNamespace (c.redactCommand cmd), by simp [Ctx.cmdDoc, hw], ?_⟩
  rw [c.redactNamespace_eq_mapVals, c.redactCommand_eq_mapVals, mapVals_mapVals, lookup_mapVals, h]
  simp only [Option.map_some, Ctx.cmdEntry_str, Ctx.nsVal, Ctx.nsFieldVal, hk1, hk2, hk, if_true, if_false]

/-- `redactNamespaceFields` on one document -/
theorem nsFields_lookup (c : Ctx) (m : List (Str × J)) (k s : Str) (hk : c.T.searchedFields.contains k = true)
    (h : lookup k m = some (.str s)) : lookup k (c.nsFields m) = some (.str (c.H s)) := by
  rw [c.nsFields_eq_mapVals, lookup_mapVals, h]
  simp only [Option.map_some, Ctx.nsFieldVal, hk, if_true]

/-- **C12 (explain, bulkWrite)**: the searched fields of the command wrapped by `explain` and the `ns`
    of every element of `nsInfo` become pseudonyms as well -/
theorem C12_nested_fields (c : Ctx) (inner : List (Str × J)) (xs : List J) (k s : Str)
    (hk : c.T.searchedFields.contains k = true) (h : lookup k inner = some (.str s)) :
    (∃ out, c.nsVal sExplain (.obj inner) = .obj out ∧ lookup k out = some (.str (c.H s))) ∧
    c.nsVal sNsInfo (.arr xs) = .arr (xs.map c.nsDocOf) ∧
    (∃ out, c.nsDocOf (.obj inner) = .obj out ∧ lookup k out = some (.str (c.H s))) := by
  refine ⟨⟨c.nsFields inner, by simp [Ctx.nsVal, Ctx.nsDocOf], nsFields_lookup c inner k s hk h⟩, ?_,
    ⟨c.nsFields inner, rfl, nsFields_lookup c inner k s hk h⟩⟩
  have : sNsInfo ≠ sExplain := by decide
  simp [Ctx.nsVal, this]

/-- the regenerated field list contains `ns` (what `nsInfo` elements carry) and neither `explain` nor `nsInfo` -/
theorem C12_nested_tables : Generated.tables.searchedFields.contains sNs = true ∧
    Generated.tables.searchedFields.contains sExplain = false ∧ Generated.tables.searchedFields.contains sNsInfo = false := by
  decide +kernel

/-- the namespace-bearing command fields named by the property -/
def Spec.nsCommandFields : List Str :=
  ["find", "aggregate", "insert", "update", "delete", "count", "distinct", "findAndModify", "collection", "$db"].map String.toList

/-- **C12 (spec ⊆ code)** — obligation on the regenerated field list -/
theorem C12_spec_fields :
    (Spec.nsCommandFields.all fun k => Generated.tables.searchedFields.contains k) = true := by
  decide +kernel

/-- **C12 (stage positions)** — obligations on the regenerated tables -/
theorem C12_stage_tables :
    let T := Generated.tables
    let sub (st arg : String) : Bool :=
      match lookup st.toList T.core with
      | some (.map m) => isTy? (lookup arg.toList m) .Namespace
      | _ => false
    sub "$lookup" "from" = true ∧ sub "$graphLookup" "from" = true ∧ sub "$unionWith" "coll" = true ∧
    sub "$merge" "into" = true ∧ sub "$out" "db" = true ∧ sub "$out" "coll" = true ∧
    (["$out", "$unionWith", "$merge"].all fun st =>
      match lookup st.toList T.core with
      | some (.map m) => Ctx.nsStage m
      | _ => false) = true := by
  decide +kernel

/-- **C12 (stage arguments)**: a Namespace-typed argument of a stage: string ↦ pseudonym, document form
    ↦ every string member its pseudonym, string form of a namespace stage ↦ pseudonym — when the flag
    is on; copied verbatim when it is off -/
theorem C12_stage_leaf (c : Ctx) (S : Bool) (k : Str) (nkp : List Str) (sk : Str) (s : Str) (kvs : List (Str × J))
    (kp : List Str) (m : MTable) :
    (c.cfg.ns = true →
      c.SubVal S k nkp sk (some (.ty .Namespace)) (.str s) = .str (c.H s) ∧
      c.SubVal S k nkp sk (some (.ty .Namespace)) (.obj kvs) = .obj (fromPairs (c.nsDoc kvs)) ∧
      c.PVal S kp k (some (.ty .Namespace)) (.str s) = .str (c.H s) ∧
      (Ctx.nsStage m = true → c.PVal S kp k (some (.map m)) (.str s) = .str (c.H s))) ∧
    (c.cfg.ns = false →
      c.SubVal S k nkp sk (some (.ty .Namespace)) (.str s) = .str s ∧
      c.SubVal S k nkp sk (some (.ty .Namespace)) (.obj kvs) = .obj kvs ∧
      c.PVal S kp k (some (.ty .Namespace)) (.str s) = .str s) := by
  constructor <;> intro h
  · refine ⟨by simp [Ctx.SubVal, Ctx.subValScalar, h], by simp [Ctx.SubVal, h], by simp [Ctx.PVal, Ctx.pValScalar, h], ?_⟩
    intro hm; simp [Ctx.PVal, Ctx.pValScalar, h, hm]
  · exact ⟨by simp [Ctx.SubVal, Ctx.subValScalar, h], by simp [Ctx.SubVal, h], by simp [Ctx.PVal, Ctx.pValScalar, h]⟩

/-- every string member of a namespace document becomes its pseudonym -/
theorem C12_nsDoc (c : Ctx) (kvs : List (Str × J)) (k : Str) (s : Str) (h : lookup k kvs = some (.str s)) :
    lookup k (c.nsDoc kvs) = some (.str (c.H s)) := by
  rw [c.nsDoc_eq_mapVals, lookup_mapVals, h]; rfl

/-- **C12 (consistency)**: the pseudonym is a function of the name, and 'db.coll' ↦ 'P(db).P(coll)' -/
theorem C12_componentwise (r db coll : Str) (hd : dollarPrefixed db = false) (hc : dollarPrefixed coll = false) :
    hashName r (db ++ '.' :: coll) = hashName r db ++ ['.'] ++ hashName r coll :=
  C13_componentwise r db coll hd hc

end Anonymongo
