/-
  Props/C02.lean — PROPERTY C02: non-interference (placeholder mode, full-redaction mode): the output does not depend on
  the contents of sensitive literals (which positions are sensitive is C01).  Selective mode: Props/C02b.
-/
import Anonymongo.Lemmas.Rel
import Anonymongo.Lemmas.LeafMode
import Anonymongo.Lemmas.Refine
import Anonymongo.Props.C05
namespace Anonymongo

namespace Ctx

/-- equal, or both handed to `redactScalarValue` by the same call (`leafMode = .scalar kp ..`) under a path that is not kept,
    with the same secret lexical class (`classOf kp`: under $date / $oid / $binary.base64, e-mail shaped, ordinary string;
    any two numbers / booleans when their flag is on) -/
def LeafRel (c : Ctx) (s : St) (a b : J) : Prop :=
  a = b ∨
  (b.isScalar = true ∧ ∃ kp S sel,
    c.leafMode s a = .scalar kp S sel ∧ c.leafMode s b = .scalar kp S sel ∧
    keptByPath c.T c.cfg kp S sel = false ∧
    classOf kp a = classOf kp b ∧ secretClass c.cfg (classOf kp a) = true)

theorem LeafRel.eq_of_not_scalar {c : Ctx} {s : St} {a b : J} (h : c.LeafRel s a b)
    (hn : (∀ kp S sel, c.leafMode s a ≠ .scalar kp S sel) ∨ (∀ kp S sel, c.leafMode s b ≠ .scalar kp S sel)) : a = b := by
  rcases h with h | ⟨_, kp, S, sel, m1, m2, _⟩
  · exact h
  · exact hn.elim (fun hn => absurd m1 (hn kp S sel)) (fun hn => absurd m2 (hn kp S sel))

theorem leafSim (c : Ctx) (hplain : c.cfg.enc = none) : LeafSim c c.LeafRel where
  scalar := by
    intro s a b ha h
    rcases h with h | ⟨hb, kp, S, sel, m1, m2, hk, hc, hsec⟩
    · subst h; exact ⟨ha, rfl, rfl⟩
    · refine ⟨hb, (classOf_fits kp a).kindOf_eq (hc ▸ classOf_fits kp b) hsec, ?_⟩
      rw [run_scalar c s a ha, run_scalar c s b hb, m1, m2]
      simp only [applyMode_scalar, scalar]
      rw [C05_class c.T c.cfg hplain kp a S sel, C05_class c.T c.cfg hplain kp b S sel, hk]
      simp only [Bool.false_eq_true, if_false]
      rw [← hc]
      exact placeholderOf_secret_indep c.T c.cfg a b _ hsec

end Ctx

/-- **C02 (walker level)**: in placeholder mode and full-redaction mode, from every walker state,
    two trees related by `RelAt LeafRel` (same structure, same kept parts, sensitive leaves of the
    same class) are redacted to the same tree. -/
theorem C02_walk (c : Ctx) (hplain : c.cfg.enc = none) (hfull : c.cfg.re = none) (s : St) (a b : J)
    (h : c.RelAt c.LeafRel s a b) : c.run s a = c.run s b :=
  (Ctx.run_rel c hfull c.LeafRel (c.leafSim hplain) s a b h).1

/-- two command documents are related when they have the same keys, the values of the zone keys
    are related in the zone's start state, and everything else is equal -/
def CmdRel (c : Ctx) (hasInsert hasBulk : Bool) : List (Str × J) → List (Str × J) → Prop
  | [], b => b = []
  | (k, v) :: rest, b => ∃ v' rest', b = (k, v') :: rest' ∧
      c.RelAt c.LeafRel (Ctx.zoneState hasInsert hasBulk k) v v' ∧ CmdRel c hasInsert hasBulk rest rest'

theorem CmdRel.relKVs {c : Ctx} {hi hb : Bool} : ∀ {a b : List (Str × J)}, CmdRel c hi hb a b →
    c.RelKVs c.LeafRel (fun k _ => (k, Ctx.zoneState hi hb k)) a b
  | [], _, h => h
  | (_, _) :: _, _, ⟨v', rest', e, h1, hr⟩ => ⟨v', rest', e, h1, hr.relKVs⟩

/-- **C02 (command level)**: related command documents are redacted to the same document
    (query / update / delete / insert / pipeline zones, the operation wrapped by explain and the operations of bulkWrite; with or without --redactNamespaces) -/
theorem C02_command (c : Ctx) (hplain : c.cfg.enc = none) (hfull : c.cfg.re = none) (a b : List (Str × J))
    (h : CmdRel c (lookup sInsert a).isSome (lookup sBulkWrite a).isSome a b) : c.cmdDoc (.obj a) = c.cmdDoc (.obj b) := by
  rw [← Ctx.cmdDoc_refine, ← Ctx.cmdDoc_refine]
  have hk := Ctx.RelKVs_keys c _ _ a b h.relKVs
  have hi : (lookup sInsert a).isSome = (lookup sInsert b).isSome := isSome_lookup_of_keysOf _ a b hk
  have hb : (lookup sBulkWrite a).isSome = (lookup sBulkWrite b).isSome := isSome_lookup_of_keysOf _ a b hk
  have := Ctx.runKVs_rel c hfull c.LeafRel (c.leafSim hplain) _ (fun _ _ _ => rfl) a b h.relKVs
  simp only [Ctx.runKVs_eq_map] at this
  simp only [Ctx.cmdDocA, Ctx.redactCommandA, ← hi, ← hb, this]

-- for the `decide` on `leafMode … = .scalar …` below
deriving instance DecidableEq for Ctx.Mode

/-- non-vacuity: in a `filter`, two different ordinary strings under a user field are related,
    so are an ISO date and anything else under `$date` -/
example : let c : Ctx := ⟨Generated.tables, ⟨"R".toList, false, false, false, false, none, none⟩, false⟩
    c.RelAt c.LeafRel .ZQ
      (.obj [("name".toList, .str "alice".toList), ("d".toList, .obj [("$date".toList, .str "2020".toList)])])
      (.obj [("name".toList, .str "bob-the-builder".toList), ("d".toList, .obj [("$date".toList, .str "x@y.zz".toList)])]) := by
  intro c
  refine ⟨_, rfl, _, _, rfl, ?_, _, _, rfl, ?_, rfl⟩
  · right
    exact ⟨rfl, ["name".toList], false, false, by decide +kernel⟩
  · refine ⟨_, rfl, _, _, rfl, ?_, rfl⟩
    right
    exact ⟨rfl, ["d".toList, "$date".toList], false, false, by decide +kernel⟩

end Anonymongo
