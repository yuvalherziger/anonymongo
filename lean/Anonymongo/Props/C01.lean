/-
  Props/C01.lean — PROPERTY C01: sensitive literals never survive (full-redaction mode), leaf level and dispatch.
  `C01_tables` is checked against Spec/Whitelist.lean, which is written from the property text, not from the code.
  Whole trees: Props/C01b.  That the output does not depend on the replaced literals is C02.
-/
import Anonymongo.Spec.Whitelist
import Anonymongo.Lemmas.ScalarClass
import Anonymongo.Lemmas.LineAlg
import Anonymongo.Generated.Tables
namespace Anonymongo

/-- **C01 (a)** — kernel-decided over the tables regenerated from the binary -/
theorem C01_tables :
    Spec.tableOK .core Generated.tables.core = true ∧
    Spec.tableOK .agg Generated.tables.agg = true ∧
    Spec.tableOK .search Generated.tables.search = true ∧
    Spec.tableOK .searchAgg Generated.tables.searchAgg = true ∧
    Spec.tableOK .opMapDefs Generated.tables.opMapDefs = true := by
  decide +kernel

/-- **C01 (b)** — dispatch: each zone key of the statement opens a zone (for `documents`: in an
    `insert` command), and the three command attributes are exactly the ones walked -/
theorem C01_dispatch :
    (Spec.zoneKeys.all fun k => match Ctx.zoneState true true k with | .Keep => false | _ => true) = true ∧
    (Spec.zoneKeys.all fun k => match opZone true k with | .Keep => false | _ => true) = true ∧
    (Spec.bulkZoneKeys.all fun k => match opZone true k with | .Keep => false | _ => true) = true ∧
    (Spec.commandAttrs.all fun a => cmdKeys.contains a) = true := by
  decide +kernel

/-- **C01 (b')** — operations one level down: the document under `explain` and every element of
    `ops` in a `bulkWrite` are walked as operations of their own (each of their zone keys opens its zone) -/
theorem C01_nested_operations (c : Ctx) (hi : Bool) (op : List (Str × J)) (xs : List J) :
    c.cmdEntry hi true (Spec.S "explain") (.obj op) = .obj (fromPairs (c.redactOperation op)) ∧
    c.cmdEntry hi true (Spec.S "ops") (.arr xs) = .arr (xs.map c.opDoc) ∧
    c.opDoc (.obj op) = .obj (fromPairs (c.redactOperation op)) ∧
    c.redactOperation op = op.map (fun p => (p.1, c.cmdVal (lookup sInsert op).isSome p.1 p.2)) := by
  refine ⟨rfl, rfl, rfl, rfl⟩

/-- the value of a zone key really is walked: objects by the query walker, arrays by the array
    walker / per stage — nothing inside is skipped at the top -/
theorem C01_zone_entry (c : Ctx) (k : Str) (hk : Spec.zoneKeys.contains k = true) (kvs : List (Str × J)) (xs : List J) :
    (k ∈ [Spec.S "query", Spec.S "filter", Spec.S "q", Spec.S "update", Spec.S "u"] →
        c.cmdVal true k (.obj kvs) = .obj (fromPairs (c.Q false none [] kvs))) ∧
    (k ∈ [Spec.S "update", Spec.S "u", Spec.S "updates", Spec.S "deletes", Spec.S "documents", Spec.S "arrayFilters"] →
        c.cmdVal true k (.arr xs) = .arr (c.A false [] false [] xs)) ∧
    (k = Spec.S "pipeline" → c.cmdVal true k (.arr xs) = .arr (c.FacetStages xs)) := by
  have ho : ∀ k ∈ [Spec.S "query", Spec.S "filter", Spec.S "q", Spec.S "update", Spec.S "u"],
      (qKeysObj.contains k || uKeysObjOrArr.contains k) = true := by decide +kernel
  have ha : ∀ k ∈ [Spec.S "update", Spec.S "u", Spec.S "updates", Spec.S "deletes", Spec.S "documents", Spec.S "arrayFilters"],
      qKeysObj.contains k = false ∧ (uKeysObjOrArr.contains k || aKeysArr.contains k || k == sDocuments) = true := by decide +kernel
  refine ⟨fun h => c.cmdVal_obj true k kvs (ho k h), fun h => c.cmdVal_arr true k xs (ha k h).1 (ha k h).2, ?_⟩
  rintro rfl; rfl

/-- the constants a redacted string can become in placeholder mode -/
def placeholderStrings (T : Tables) (cfg : Cfg) : List Str := [T.isoDate, T.objectId, T.uuid, T.emailPH, cfg.repl]

/-- **C01 (c)**, placeholder mode: a string handed to `redactScalarValue` under a path that is not
    kept (not exempt; full-redaction mode) and that is not a `$binary.subType` becomes one of five
    constants — whatever the string is -/
theorem C01_replaced (T : Tables) (cfg : Cfg) (hplain : cfg.enc = none) (hfull : cfg.re = none)
    (kp : List Str) (S sel : Bool) (s : Str)
    (hex : isTy? (getOp T kp S) .Exempt = false)
    (hsub : (lastD kp = sSubType && grandParent kp = sBinary) = false) :
    ∃ p ∈ placeholderStrings T cfg, redactScalar T cfg kp (.str s) S sel = .str p := by
  obtain ⟨p, hp, e⟩ := redactScalar_str T cfg kp s S sel (keptByPath_full T cfg kp hfull S sel hex) hsub
  exact ⟨p, hp, by rw [e, redactString_plain cfg hplain]⟩

/-- **C01 (c)**, encrypt mode, fail-closed: the leaf is the ciphertext of the string or a placeholder -/
theorem C01_replaced_enc (T : Tables) (cfg : Cfg) (f : Str → Option Str) (henc : cfg.enc = some f) (hfull : cfg.re = none)
    (kp : List Str) (S sel : Bool) (s : Str)
    (hex : isTy? (getOp T kp S) .Exempt = false)
    (hsub : (lastD kp = sSubType && grandParent kp = sBinary) = false) :
    (∃ ct, f s = some ct ∧ redactScalar T cfg kp (.str s) S sel = .str ct) ∨
    (f s = none ∧ ∃ p ∈ placeholderStrings T cfg, redactScalar T cfg kp (.str s) S sel = .str p) := by
  obtain ⟨p, hp, e⟩ := redactScalar_str T cfg kp s S sel (keptByPath_full T cfg kp hfull S sel hex) hsub
  rw [e, redactString_enc cfg f henc]
  cases f s with
  | some ct => exact .inl ⟨ct, rfl, rfl⟩
  | none => exact .inr ⟨rfl, p, hp, rfl⟩

/-- numbers and booleans: replaced by the constant exactly when their flag is on -/
theorem C01_numbers_bools (T : Tables) (cfg : Cfg) (hfull : cfg.re = none) (kp : List Str) (S sel : Bool)
    (hex : isTy? (getOp T kp S) .Exempt = false)
    (hsub : (lastD kp = sSubType && grandParent kp = sBinary) = false) (l : Str) (b : Bool) :
    (cfg.nums = true → redactScalar T cfg kp (.num l) S sel = .num T.number) ∧
    (cfg.bools = true → redactScalar T cfg kp (.bool b) S sel = .bool T.boolean) := by
  rw [redactScalar_eq, redactScalar_eq, keptByPath_full T cfg kp hfull S sel hex]
  simp only [Bool.false_eq_true, if_false, classOf, hsub, redactAs, reduceCtorEq, encStr, placeholderOf]
  exact ⟨fun h => if_pos h, fun h => if_pos h⟩

/-- with the redactIPs flag a string `attr.remote` becomes the constant placeholder, on every line
    (gated or not), whatever the other flags -/
theorem C01_remote (T : Tables) (cfg : Cfg) (hips : cfg.ips = true) (eager : List Str) (plan : Str → Str → Str) (g : Bool)
    (attr : List (Str × J)) (s : Str) (h : lookup sRemote attr = some (.str s)) :
    lookup sRemote (redactAttr T cfg eager plan g attr) = some (.str T.ipPH) := by
  unfold redactAttr
  rw [lookup_redactAttrWith, h, attrFn_remote]
  simp [hips]

end Anonymongo
