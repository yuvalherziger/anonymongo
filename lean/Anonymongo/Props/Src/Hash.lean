/-
  Props/Src/Hash.lean — the TRANSLATED `HashName` (Generated/Src.lean) is the model's `hashName`.
  The theorems of C13 about `hashName` (form, depth, leading `$`, component-wise, injective modulo the truncated digest) are thereby
  statements about the source text of `HashName`; SHA-256 itself, `strings.Split` / `Join` and `%x` are the model's (corresponded).
-/
import Anonymongo.Props.Src.Base
import Anonymongo.Lemmas.Hash
namespace Anonymongo.Src
open Anonymongo Anonymongo.Go

theorem trimLeftCutset_dollar : ∀ (s : Str), trimLeftCutset s s__24 = trimLeftDollar s
  | [] => by rfl
  | c :: r => by
    by_cases hc : c = '$'
    · subst hc
      exact trimLeftCutset_dollar r
    · have hb : (c == '$') = false := beq_false_of_ne hc
      rw [trimLeftDollar_of_not_dollar _ ((dollarPrefixed_cons c r).trans (decide_eq_false hc)), show s__24 = ['$'] from rfl]
      simp only [trimLeftCutset, List.dropWhile_cons, List.contains_cons, hb, List.contains_nil, Bool.or_false, Bool.false_eq_true, if_false]

theorem hexBytes_take8 (h : Bytes) : hexBytes (h.take 8) = hex16 h := rfl

/-- **`HashName` is the model's `hashName`** (with the replacement text currently installed) -/
theorem HashName_eq (g : Globals) (T : Tables) (field : Str) :
    HashName g T field = some (hashName g.redactedString field) := by
  unfold HashName hashName
  simp only [trimLeftCutset_dollar]
  generalize splitOn '.' (trimLeftDollar field) = parts
  refine (congrArg (· >>= _) (forIn_fill _ (hashPart g.redactedString) [] parts [] fun x _ pre' rest' y => ?_)).trans rfl
  have h8 : sliceTo (sha256 (utf8 x)) (8 : Int) = some ((sha256 (utf8 x)).take 8) := by
    rw [sliceTo, sha256_length]
    rfl
  have h5f : s__5f = ['_'] := rfl
  simp only [h8, setIdx_mid, Option.bind_eq_bind, Option.bind_some, Option.pure_def, hexBytes_take8, h5f]
  rfl

end Anonymongo.Src
