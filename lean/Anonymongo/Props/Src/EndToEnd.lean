/-
  Props/Src/EndToEnd.lean — the line-level property theorems restated about the TRANSLATED `RedactMongoLog` (regenerated from
  src/anonymizer.go on every run) with the tables regenerated from the binary: `RedactMongoLog_eq_gen` (Props/Src/Line) composed with a
  theorem about the model (C04, C01; C03 and C19 in EndToEndShape.lean); `C07_src` takes the model's parser as the reader and covers EVERY
  line.  What remains as hypotheses is exactly the untranslated part: the stage walker (`hP`), the plan-summary rewriter (`hplan`), the
  JSON reader (`hparse`, `hnd`).  `hfuel` bounds the translator's fuel argument from below; Go has none (its recursion is bounded by the
  nesting of the value: `traverseFuel_enough`, `QA_all`).
-/
import Anonymongo.Props.Src.Line
import Anonymongo.Props.C04
import Anonymongo.Props.C01
import Anonymongo.Model.JsonText
import Anonymongo.Lemmas.ParseValid
import Anonymongo.Model.Plan
namespace Anonymongo.Src
open Anonymongo Anonymongo.Go

variable (g : Globals) (fuel : Nat)

/-- what is assumed of the three untranslated callees of the translated `RedactMongoLog` -/
structure Callees (g : Globals) (plan : Str → Str → Str) : Prop where
  hP : ∀ (st : J) (rfn : Bool) (kp : List Str) (S : Bool),
      g.redactPipelineStage st rfn kp S = some ((Ctx.mk Generated.tables (absCfg g) rfn).P S kp st)
  hplan : ∀ s, g.redactFieldNamesFromPlanSummary s = plan g.redactedString s

/-- the translated `RedactMongoLog` **returns** on every line the reader accepts, with no error -/
theorem RedactMongoLog_returns (plan : Str → Str → Str) (cal : Callees g plan)
    (line : Str) (E0 : List (Str × J)) (hparse : g.UnmarshalOrdered (utf8 line) = some E0)
    (hnd : (J.obj E0).nodup = true) (hfuel : 2 * depthKVs E0 < fuel) :
    ∃ out, RedactMongoLog g Generated.tables fuel line = some (out, false) :=
  ⟨_, RedactMongoLog_eq_gen g fuel cal.hP plan cal.hplan line E0 hparse hnd hfuel⟩

/-- **C04 at source level**: the top-level frame — keys, their order, and every member except `attr` — is returned unchanged,
    under every setting of the options -/
theorem C04_src (plan : Str → Str → Str) (cal : Callees g plan)
    (line : Str) (E0 : List (Str × J)) (hparse : g.UnmarshalOrdered (utf8 line) = some E0)
    (hnd : (J.obj E0).nodup = true) (hfuel : 2 * depthKVs E0 < fuel) :
    ∃ out, RedactMongoLog g Generated.tables fuel line = some (out, false) ∧
      keysOf out = keysOf E0 ∧ ∀ k, k ≠ sAttr → lookup k out = lookup k E0 :=
  ⟨_, RedactMongoLog_eq_gen g fuel cal.hP plan cal.hplan line E0 hparse hnd hfuel,
    C04_top_frame Generated.tables (absCfg g) g.eagerRedactionPaths plan E0⟩

/-- **C01 (`--redactIPs`) at source level**: a string `attr.remote` comes back as the constant address placeholder -/
theorem C01_remote_src (plan : Str → Str → Str) (cal : Callees g plan) (hips : g.redactIPs = true)
    (line : Str) (E0 : List (Str × J)) (hparse : g.UnmarshalOrdered (utf8 line) = some E0)
    (hnd : (J.obj E0).nodup = true) (hfuel : 2 * depthKVs E0 < fuel)
    (attr : List (Str × J)) (hattr : lookup sAttr E0 = some (.obj attr)) (s : Str) (hs : lookup sRemote attr = some (.str s)) :
    ∃ out attr', RedactMongoLog g Generated.tables fuel line = some (out, false) ∧
      lookup sAttr out = some (.obj attr') ∧ lookup sRemote attr' = some (.str Generated.tables.ipPH) := by
  refine ⟨_, redactAttr Generated.tables (absCfg g) g.eagerRedactionPaths plan (gated E0) attr,
    RedactMongoLog_eq_gen g fuel cal.hP plan cal.hplan line E0 hparse hnd hfuel, ?_, ?_⟩
  · unfold redactLine redactLineWith
    rw [hattr]
    dsimp only
    rw [mapKey_eq_mapVals, lookup_mapVals, hattr]
    simp [redactAttr]
  · exact C01_remote Generated.tables (absCfg g) hips g.eagerRedactionPaths plan _ attr s hs

/-- what the model's parser accepts has no duplicate sibling keys -/
theorem nodup_of_parseObj {bs : Bytes} {E0 : List (Str × J)} (hp : parseObj bs = some E0) : (J.obj E0).nodup = true :=
  (Bool.and_eq_true_iff.1 ((printable_iff _).symm.trans (parseObj_printable _ E0 hp))).2

/-- **C07 at source level — no line content makes the translated `RedactMongoLog` panic**: with the model's parser as the reader
    (`Model/JsonText.parseObj`, compared with `UnmarshalOrdered` byte for byte by the `text` correspondence), for EVERY line and every
    setting of the options the translated function returns: the reader's error and nothing else for a line the reader rejects, an
    entry and no error for a line it accepts (what it accepts never has duplicate sibling keys: `parseObj_printable`) -/
theorem C07_src (plan : Str → Str → Str) (cal : Callees g plan) (hreader : g.UnmarshalOrdered = parseObj) (line : Str) :
    (parseObj (utf8 line) = none ∧ RedactMongoLog g Generated.tables fuel line = some ([], true)) ∨
    (∃ E0, parseObj (utf8 line) = some E0 ∧
      (2 * depthKVs E0 < fuel → ∃ out, RedactMongoLog g Generated.tables fuel line = some (out, false))) := by
  cases hp : parseObj (utf8 line) with
  | none => exact .inl ⟨rfl, RedactMongoLog_err g Generated.tables fuel line (hreader ▸ hp)⟩
  | some E0 => exact .inr ⟨E0, rfl, RedactMongoLog_returns g fuel plan cal line E0 (hreader ▸ hp) (nodup_of_parseObj hp)⟩

/-! the hypotheses are satisfiable: a state of the option variables whose untranslated callees are the model's functions
    (the JSON reader is the model's parser), and a line on which every hypothesis of the theorems above holds -/
def witnessLine : Str := "{\"c\":\"NETWORK\",\"attr\":{\"remote\":\"10.1.2.3:5\"}}".toList
def witnessAttr : List (Str × J) := [("remote".toList, .str "10.1.2.3:5".toList)]
def witnessEntry : List (Str × J) := [("c".toList, .str "NETWORK".toList), ("attr".toList, .obj witnessAttr)]

/-- `witness` in two steps, because its stage walker is the model's under `absCfg` of the state itself (`absCfg` does not read that field).
    The reader answers the witness line from a table - with the entry the model's parser returns for it - so that `witness_parse` holds
    by `if_pos rfl` without running the parser -/
def witness0 : Globals where
  redactedString := "REDACTED".toList
  redactNumbers := false
  redactBooleans := false
  redactIPs := true
  shouldEncrypt := false
  redactNamespaces := false
  encryptionKey := none
  redactedFieldsRegexp := none
  Encrypt := fun _ _ => none
  b64 := fun _ => []
  ReadFile := fun _ => none
  b64dec := fun _ => none
  WriteFile := fun _ _ _ => true
  Stat := fun _ => .notExist
  eagerRedactionPaths := []
  UnmarshalOrdered := fun bs => if bs = utf8 witnessLine then some witnessEntry else parseObj bs
  redactFieldNamesFromPlanSummary := redactPlan "REDACTED".toList
  redactPipelineStage := fun _ _ _ _ => none

def witness : Globals :=
  { witness0 with redactPipelineStage := fun st rfn kp S => some ((Ctx.mk Generated.tables (absCfg witness0) rfn).P S kp st) }

theorem witness_parse : witness.UnmarshalOrdered (utf8 witnessLine) = some witnessEntry := by
  dsimp only [witness, witness0]
  exact if_pos rfl

theorem witness_callees : Callees witness redactPlan := ⟨fun _ _ _ _ => rfl, fun _ => rfl⟩

example : ∃ out attr', RedactMongoLog witness Generated.tables 10 witnessLine = some (out, false) ∧
    lookup sAttr out = some (.obj attr') ∧ lookup sRemote attr' = some (.str Generated.tables.ipPH) :=
  C01_remote_src witness 10 redactPlan witness_callees rfl witnessLine witnessEntry
    witness_parse (by decide +kernel) (by decide +kernel) witnessAttr rfl "10.1.2.3:5".toList rfl

end Anonymongo.Src
