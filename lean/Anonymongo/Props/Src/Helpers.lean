/-
  Props/Src/Helpers.lean — the remaining TRANSLATED helpers of the walkers: `isFieldNameValue`, `isRedactableFieldPatternInArray`
  (= `Ctx.selArr`; a search, `forIn_first`), `isInSearchStage`, `augmentOp` (on tables without duplicate keys: its first loop copies the
  table and collects `nameMismatch`, its second is `foldl_overwrite`).  Separate from Leaf / PathFns / Path / Scalar so that a change of
  one of these functions leaves the leaf theorems checking.
-/
import Anonymongo.Props.Src.Base
namespace Anonymongo.Src
open Anonymongo Anonymongo.Go

/-- `isFieldNameValue`: a string head continues the loop, every other head leaves it -/
theorem isFieldNameValue_eq (g : Globals) (T : Tables) (v : J) :
    isFieldNameValue g T v = some (Ctx.isFieldNameValue v) := by
  unfold isFieldNameValue
  cases v with
  | arr xs =>
    simp only [Ctx.isFieldNameValue]
    induction xs with
    | nil => rfl
    | cons x xs ih =>
      cases x with
      | str s =>
        rw [forIn_cons_yield _ xs _ (none, ()) _ rfl]
        exact ih
      | _ => rfl
  | _ => rfl

theorem trimPrefix_dollar (r : Str) : trimPrefix ('$' :: r) s__24 = r := rfl

theorem isRedactableFieldPatternInArray_eq (g : Globals) (T : Tables) (rfn : Bool) (arr : List J) :
    isRedactableFieldPatternInArray g T arr = some (Ctx.selArr ⟨T, absCfg g, rfn⟩ arr) := by
  unfold isRedactableFieldPatternInArray Ctx.selArr
  cases hre : g.redactedFieldsRegexp with
  | none =>
    simp only [absCfg, hre]
    rfl
  | some m =>
    have hre' : (Ctx.mk T (absCfg g) rfn).cfg.re = some m := hre
    rw [hre']
    dsimp only
    refine (if_neg Bool.false_ne_true).trans ?_
    rw [forIn_first (fun x => match x with | .str ('$' :: r) => m r | _ => false) _ (none, ()) (some true, ())]
    · generalize List.any arr _ = b
      cases b <;> rfl
    · intro x
      cases x with
      | str s =>
        cases s with
        | nil => rfl
        | cons c r =>
          rw [show asStr (J.str (c :: r)) = (c :: r, true) from rfl]
          dsimp only
          simp only [decide_strLen_pos, strByte0Is, reMatch]
          by_cases hc : c = '$'
          · subst hc
            simp only [trimPrefix_dollar]
            cases m r <;> rfl
          · rw [beq_false_of_ne hc]
            split
            · rename_i h
              cases h
              exact absurd rfl hc
            · rfl
      | _ => rfl

theorem isInSearchStage_eq (g : Globals) (T : Tables) (stage : J) :
    isInSearchStage g T stage = some (Anonymongo.isInSearchStage T stage) := by
  unfold isInSearchStage Anonymongo.isInSearchStage
  cases stage with
  | obj kvs =>
    simp only [asObj, if_true]
    induction kvs with
    | nil => rfl
    | cons kv kvs ih =>
      obtain ⟨k, v⟩ := kv
      simp only [List.forIn_cons, List.any_cons]
      cases h : T.topSearch.contains k
      · simp only [Bool.false_eq_true, if_false, Bool.false_or]; exact ih
      · simp
  | _ => rfl

/-- the second loop of `augmentOp`: overwriting entries of a map with distinct keys while walking over it -/
theorem foldl_overwrite (p : Str × Meta → Bool) (w : Meta) : ∀ (rest pre : List (Str × Meta)),
    nodupKeys (keysOf pre ++ keysOf rest) = true →
    rest.foldl (fun s el => if p el then setKV el.1 w s else s) (pre ++ rest) =
      pre ++ rest.map (fun el => if p el then (el.1, w) else (el.1, el.2))
  | [], pre, _ => rfl
  | (k, v) :: rest, pre, hnd => by
    have hk : k ∉ keysOf pre := fun hm => ((nodupKeys_append _ _).mp hnd).2.2 k hm List.mem_cons_self
    have step := fun v' => foldl_overwrite p w rest (pre ++ [(k, v')]) (by rw [keysOf_append, List.append_assoc]; exact hnd)
    simp only [List.append_assoc] at step
    rw [List.foldl_cons, List.map_cons]
    cases hp : p (k, v)
    · exact step v
    · rw [if_pos rfl, if_pos rfl, setKV_mid k w v pre rest hk]
      exact step w

/-- the model's `nameMismatch` in the shape the translated loop body computes it -/
theorem nameMismatch_eq (m : Str → Bool) (v : List (Str × J)) (e : Str × Meta) :
    nameMismatch m v e = (e.2.isTy .FieldName &&
      (!((asStr (objGet v e.1).1).1 == s_empty) && !m (asStr (objGet v e.1).1).1)) := by
  unfold nameMismatch objGet
  cases lookup e.1 v with
  | none => rfl
  | some w =>
    cases w with
    | str s => cases s <;> rfl
    | _ => rfl

/-- `augmentOp` is the model's, for a table without duplicate keys (every operator table is an ordered map); the two loop bodies
    are decided by a case split on the `Bool` that `metaEq_isTy` gives, not on the constructors of `OpT` -/
theorem augmentOp_eq (g : Globals) (T : Tables) (op : MTable) (v : List (Str × J)) (hnd : nodupKeys (keysOf op) = true) :
    augmentOp g T op v = some (Anonymongo.augmentOp g.redactedFieldsRegexp op v) := by
  unfold augmentOp
  cases hre : g.redactedFieldsRegexp with
  | none => rfl
  | some m =>
    refine (if_neg Bool.false_ne_true).trans ?_
    dsimp only
    rw [forIn_yield_fold _ (fun (s : MTable × Bool) el => (setKV el.1 el.2 s.1, s.2 || nameMismatch m v el))]
    · have h2 : op.foldl (fun acc p => setKV p.1 p.2 acc) [] = op := fromPairs_of_nodup op hnd
      rw [foldl_prod (fun acc p => setKV p.1 p.2 acc) (fun b x => b || nameMismatch m v x), any_foldl_or]
      dsimp only
      rw [h2]
      simp only [Bool.false_or, Option.bind_eq_bind, Option.bind_some, Anonymongo.augmentOp]
      cases hany : op.any (nameMismatch m v)
      · rfl
      · rw [if_pos rfl, if_pos rfl, forIn_yield_fold _ (fun (s : MTable) el =>
          if (fun (e : Str × Meta) => e.2.isTy .Redactable) el then setKV el.1 (.ty .Exempt) s else s)]
        · exact congrArg some (foldl_overwrite (fun (e : Str × Meta) => e.2.isTy .Redactable) (.ty .Exempt) op [] hnd)
        · intro x s
          cases hx : x.2.isTy .Redactable <;> simp only [metaEq_isTy, hx, if_true, Bool.false_eq_true, if_false] <;> rfl
    · intro x s
      rw [metaEq_isTy, nameMismatch_eq]
      cases hx : x.2.isTy .FieldName
      · simp only [Bool.false_eq_true, if_false, Bool.false_and, Bool.or_false]
        rfl
      · rw [if_pos rfl]
        simp only [reMatch]
        generalize (asStr (objGet v x.fst).fst).fst = F
        generalize (F == s_empty) = a
        generalize m F = b
        generalize s.snd = c
        cases a <;> cases b <;> cases c <;> rfl

end Anonymongo.Src
