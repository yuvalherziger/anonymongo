/-
  Props/Src/Line.lean — the TRANSLATED `RedactMongoLog` (continuation style: one Lean function per statement) is the model's `redactLine`
  (Model/Line.lean).  The JSON reader, the plan-summary rewriter and the stage walker are parameters.
  Every continuation is stated with `entry = W attr E` (Go updates `attr` through the pointer; the translation writes it back).  A command
  attribute and a guarded string attribute are each stated once with the rest of the function as a parameter (`cmdAttr_step`,
  `strAttr_step`); the `k12_k*_eq`, `k13_eq` are these applied to the next continuation, the generated body being matched by unfolding.
  `k12_eq` chains them from the gate on, carrying two invariants: the keys of `attr` stay distinct, and a document under a key of `attr` is
  one of the original's (no duplicate keys at any level, within the fuel).  `k3_eq_obj` puts the address rewrite in front (`k3_eq_other`:
  `attr` absent or not a document); `attrFrom12_model` identifies the whole rewrite with the model's `redactAttrWith`.
-/
import Anonymongo.Props.Src.Command
import Anonymongo.Lemmas.PlanGen
namespace Anonymongo.Src
open Anonymongo Anonymongo.Go

theorem s_attr_eq : s_attr = sAttr := rfl

/-- the entry with its `attr` replaced -/
def W (attr entry : List (Str × J)) : List (Str × J) := setKV s_attr (J.obj attr) entry

theorem W_W (a b e : List (Str × J)) : W a (W b e) = W a e := setKV_setKV _ _ _ _
theorem setKV_W (a b e : List (Str × J)) : setKV s_attr (J.obj a) (W b e) = W a e := setKV_setKV _ _ _ _

/-- apply `f` to a string, leave anything else alone -/
def strF (f : Str → Str) : J → J
  | .str s => .str (f s)
  | v => v

theorem redactNamespace_rfn (T : Tables) (cfg : Cfg) (r1 r2 : Bool) (cmd : List (Str × J)) :
    (Ctx.mk T cfg r1).redactNamespace cmd = (Ctx.mk T cfg r2).redactNamespace cmd := rfl

variable (g : Globals) (T : Tables) (fuel : Nat) (jsonStr : Str) (E1 : List (Str × J)) (err : Bool) (attrVal : J) (hasAttr : Bool)
  (ok_5 : Bool) (cVal msgVal : J) (c msg : Str)

/-- statement 14: `return entry, nil` -/
theorem k14_eq (entry attr : List (Str × J)) :
    RedactMongoLog_k14 g T fuel jsonStr entry err attrVal hasAttr attr ok_5 cVal msgVal c msg = some (entry, false) := rfl

/-- **the command-attribute statement**, whatever follows it (`next`, which also receives what `Get` returned): it is
    `attr[K] := cmdDoc attr[K]`, and the entry carries the new `attr`.  The three cases are the three readings of `updAt`: key absent
    (`lookup_none_updAt`), a document (`setKV_updAt`, after `redactCommand` and - under the flag - `redactNamespace`, every
    intermediate `Set` being overwritten by the last), any other value (`updAt_fix`). -/
theorem cmdAttr_step (env : Env g T) (hsf : T.searchedFields = [s_ns, s_aggregate, s_insert, s_find, s_update, s_collection, s_delete, s__24db, s_count,
      s_findAndModify, s_findOneAndDelete, s_replace, s_findOneAndReplace, s_findOneAndUpdate, s_getIndexes, s_countDocuments, s_distinct, s_mapReduce,
      s_findandmodify]) (K : Str) (attr : List (Str × J)) (hnd : nodupKeys (keysOf attr) = true) (eager : Bool)
    (hdoc : ∀ m, lookup K attr = some (.obj m) → (J.obj m).nodup = true ∧ 2 * depthKVs m < fuel)
    {β : Type} (next : List (Str × J) → List (Str × J) → J → Bool → Option β) :
    (do
      let mut entry := W attr E1
      let mut attr := attr
      let (x, ok) := objGet attr K
      if ok then
        let mut (m, ok2) := asObj x
        if ok2 then
          m := (← redactCommand g T fuel m eager)
          attr := setKV K (J.obj m) attr
          entry := setKV s_attr (J.obj attr) entry
          if g.redactNamespaces then
            m := (← redactNamespace g T m)
            attr := setKV K (J.obj m) attr
            entry := setKV s_attr (J.obj attr) entry
          attr := setKV K (J.obj m) attr
          entry := setKV s_attr (J.obj attr) entry
      next entry attr x ok) =
      next (W (updAt K (Ctx.mk T (absCfg g) eager).cmdDoc attr) E1) (updAt K (Ctx.mk T (absCfg g) eager).cmdDoc attr)
        (objGet attr K).1 (objGet attr K).2 := by
  conv => lhs; zeta   -- (why: see `blkQ`, Props/Src/Dispatch)
  unfold objGet
  cases hl : lookup K attr with
  | none => exact congrArg (fun a => next (W a E1) a _ _) (lookup_none_updAt K _ attr hl).symm
  | some v =>
    cases v with
    | obj m =>
      obtain ⟨hm, hdm⟩ := hdoc m hl
      have h1 := redactCommand_eq g T env fuel eager m hm hdm
      have h2 : redactNamespace g T ((Ctx.mk T (absCfg g) eager).redactCommand m) =
          some ((Ctx.mk T (absCfg g) eager).redactNamespace ((Ctx.mk T (absCfg g) eager).redactCommand m)) := by
        rw [redactNamespace_eq g T _ (redactCommand_nodup _ m hm) hsf]; rfl
      -- `cmdDoc` of the document, with the flag as the source reads it
      have h3 : setKV K (J.obj (if g.redactNamespaces = true then
            (Ctx.mk T (absCfg g) eager).redactNamespace ((Ctx.mk T (absCfg g) eager).redactCommand m)
          else (Ctx.mk T (absCfg g) eager).redactCommand m)) attr = updAt K (Ctx.mk T (absCfg g) eager).cmdDoc attr :=
        setKV_updAt K (Ctx.mk T (absCfg g) eager).cmdDoc attr (.obj m) hnd hl
      rw [← h3]
      refine (congrArg (fun o => Option.bind o _) h1).trans ?_
      cases g.redactNamespaces
      · simp only [Option.bind, Bool.false_eq_true, if_false, setKV_setKV, setKV_W]
      · refine (congrArg (fun o => Option.bind o _) h2).trans ?_
        simp only [Option.bind, if_true, setKV_setKV, setKV_W]
    | _ => exact congrArg (fun a => next (W a E1) a _ _) (updAt_fix K _ attr _ hnd hl rfl).symm

/-- **the string-attribute statement** under a guard `b`, whatever follows it: `attr[K] := f attr[K]` on a string (`fM` is the
    translated function, possibly partial in form; a pure one is `fun s => some (f s)`) -/
theorem strAttr_step (b : Bool) (K : Str) (fM : Str → Option Str) (f : Str → Str) (hf : ∀ s, fM s = some (f s))
    (attr : List (Str × J)) (hnd : nodupKeys (keysOf attr) = true)
    {β : Type} (next : List (Str × J) → List (Str × J) → Option β) :
    (do
      let mut entry := W attr E1
      let mut attr := attr
      if b then
        let (x, ok) := objGet attr K
        if ok then
          let (s, ok2) := asStr x
          if ok2 then
            let r : Str := (← fM s)
            attr := setKV K (J.str r) attr
            entry := setKV s_attr (J.obj attr) entry
      next entry attr) =
      next (W (if b = true then updAt K (strF f) attr else attr) E1) (if b = true then updAt K (strF f) attr else attr) := by
  cases b
  · rfl
  · rw [if_pos rfl]
    conv => lhs; zeta   -- as in `blkQ`
    unfold objGet
    cases hl : lookup K attr with
    | none => exact congrArg (fun a => next (W a E1) a) (lookup_none_updAt K _ attr hl).symm
    | some v =>
      cases v with
      | str s =>
        refine (congrArg (fun o => Option.bind o _) (hf s)).trans ?_
        rw [← setKV_updAt K (strF f) attr (.str s) hnd hl]
        exact congrArg (fun e => next e _) (setKV_W _ _ _)
      | _ => exact congrArg (fun a => next (W a E1) a) (updAt_fix K _ attr _ hnd hl rfl).symm

/-- statement 13: `attr.ns` under `--redactNamespaces` -/
theorem k13_eq (attr : List (Str × J)) (hnd : nodupKeys (keysOf attr) = true) :
    RedactMongoLog_k13 g T fuel jsonStr (W attr E1) err attrVal hasAttr attr ok_5 cVal msgVal c msg =
      some (W (if g.redactNamespaces = true then updAt s_ns (strF (hashName g.redactedString)) attr else attr) E1, false) :=
  strAttr_step E1 g.redactNamespaces s_ns (HashName g T) _ (HashName_eq g T) attr hnd
    fun entry attr => RedactMongoLog_k14 g T fuel jsonStr entry err attrVal hasAttr attr ok_5 cVal msgVal c msg

/-- statement 12.8: the plan summary in field-name mode -/
theorem k12_k8_eq (attr : List (Str × J)) (hnd : nodupKeys (keysOf attr) = true) (eager : Bool) (oc : J) (ocOk : Bool) (cm : J) (cmOk : Bool) :
    RedactMongoLog_k12_k8 g T fuel jsonStr (W attr E1) err attrVal hasAttr attr ok_5 cVal msgVal c msg eager oc ocOk cm cmOk =
      RedactMongoLog_k13 g T fuel jsonStr
        (W (if eager = true then updAt s_planSummary (strF g.redactFieldNamesFromPlanSummary) attr else attr) E1) err attrVal hasAttr
        (if eager = true then updAt s_planSummary (strF g.redactFieldNamesFromPlanSummary) attr else attr) ok_5 cVal msgVal c msg :=
  strAttr_step E1 eager s_planSummary (fun s => some (g.redactFieldNamesFromPlanSummary s)) _ (fun _ => rfl) attr hnd
    fun entry attr => RedactMongoLog_k13 g T fuel jsonStr entry err attrVal hasAttr attr ok_5 cVal msgVal c msg

/-- statement 12.7: `attr.command` -/
theorem k12_k7_eq (env : Env g T) (hsf : T.searchedFields = [s_ns, s_aggregate, s_insert, s_find, s_update, s_collection, s_delete, s__24db, s_count,
      s_findAndModify, s_findOneAndDelete, s_replace, s_findOneAndReplace, s_findOneAndUpdate, s_getIndexes, s_countDocuments, s_distinct, s_mapReduce,
      s_findandmodify]) (attr : List (Str × J)) (hnd : nodupKeys (keysOf attr) = true) (eager : Bool)
    (oc : J) (ocOk : Bool) (cm : J) (cmOk : Bool)
    (hdoc : ∀ m, lookup s_command attr = some (.obj m) → (J.obj m).nodup = true ∧ 2 * depthKVs m < fuel) :
    RedactMongoLog_k12_k7 g T fuel jsonStr (W attr E1) err attrVal hasAttr attr ok_5 cVal msgVal c msg eager oc ocOk cm cmOk =
      RedactMongoLog_k12_k8 g T fuel jsonStr (W (updAt s_command (Ctx.mk T (absCfg g) eager).cmdDoc attr) E1) err attrVal hasAttr
        (updAt s_command (Ctx.mk T (absCfg g) eager).cmdDoc attr) ok_5 cVal msgVal c msg eager oc ocOk cm cmOk :=
  cmdAttr_step g T fuel E1 env hsf s_command attr hnd eager hdoc
    fun entry attr _ _ => RedactMongoLog_k12_k8 g T fuel jsonStr entry err attrVal hasAttr attr ok_5 cVal msgVal c msg eager oc ocOk cm cmOk

/-- statements 12.5 / 12.6: `attr.cmd` -/
theorem k12_k5_eq (env : Env g T) (hsf : T.searchedFields = [s_ns, s_aggregate, s_insert, s_find, s_update, s_collection, s_delete, s__24db, s_count,
      s_findAndModify, s_findOneAndDelete, s_replace, s_findOneAndReplace, s_findOneAndUpdate, s_getIndexes, s_countDocuments, s_distinct, s_mapReduce,
      s_findandmodify]) (attr : List (Str × J)) (hnd : nodupKeys (keysOf attr) = true) (eager : Bool)
    (oc : J) (ocOk : Bool)
    (hdoc : ∀ m, lookup s_cmd attr = some (.obj m) → (J.obj m).nodup = true ∧ 2 * depthKVs m < fuel) :
    RedactMongoLog_k12_k5 g T fuel jsonStr (W attr E1) err attrVal hasAttr attr ok_5 cVal msgVal c msg eager oc ocOk =
      RedactMongoLog_k12_k7 g T fuel jsonStr (W (updAt s_cmd (Ctx.mk T (absCfg g) eager).cmdDoc attr) E1) err attrVal hasAttr
        (updAt s_cmd (Ctx.mk T (absCfg g) eager).cmdDoc attr) ok_5 cVal msgVal c msg eager oc ocOk (objGet attr s_cmd).1 (objGet attr s_cmd).2 :=
  cmdAttr_step g T fuel E1 env hsf s_cmd attr hnd eager hdoc
    fun entry attr cm cmOk => RedactMongoLog_k12_k7 g T fuel jsonStr entry err attrVal hasAttr attr ok_5 cVal msgVal c msg eager oc ocOk cm cmOk

/-- statements 12.3 / 12.4: `attr.originatingCommand` -/
theorem k12_k3_eq (env : Env g T) (hsf : T.searchedFields = [s_ns, s_aggregate, s_insert, s_find, s_update, s_collection, s_delete, s__24db, s_count,
      s_findAndModify, s_findOneAndDelete, s_replace, s_findOneAndReplace, s_findOneAndUpdate, s_getIndexes, s_countDocuments, s_distinct, s_mapReduce,
      s_findandmodify]) (attr : List (Str × J)) (hnd : nodupKeys (keysOf attr) = true) (eager : Bool)
    (hdoc : ∀ m, lookup s_originatingCommand attr = some (.obj m) → (J.obj m).nodup = true ∧ 2 * depthKVs m < fuel) :
    RedactMongoLog_k12_k3 g T fuel jsonStr (W attr E1) err attrVal hasAttr attr ok_5 cVal msgVal c msg eager =
      RedactMongoLog_k12_k5 g T fuel jsonStr (W (updAt s_originatingCommand (Ctx.mk T (absCfg g) eager).cmdDoc attr) E1) err attrVal hasAttr
        (updAt s_originatingCommand (Ctx.mk T (absCfg g) eager).cmdDoc attr) ok_5 cVal msgVal c msg eager
        (objGet attr s_originatingCommand).1 (objGet attr s_originatingCommand).2 :=
  cmdAttr_step g T fuel E1 env hsf s_originatingCommand attr hnd eager hdoc
    fun entry attr oc ocOk => RedactMongoLog_k12_k5 g T fuel jsonStr entry err attrVal hasAttr attr ok_5 cVal msgVal c msg eager oc ocOk

/-- statement 12.2: the `--redactFieldNames` prefixes against `attr.ns` (the loop stops at the first match) -/
theorem k12_k2_eq (entry attr : List (Str × J)) :
    RedactMongoLog_k12_k2 g T fuel jsonStr entry err attrVal hasAttr attr ok_5 cVal msgVal c msg false =
      RedactMongoLog_k12_k3 g T fuel jsonStr entry err attrVal hasAttr attr ok_5 cVal msgVal c msg
        (g.eagerRedactionPaths.any fun p => isPrefix p (strOrEmpty (lookup s_ns attr))) := by
  unfold RedactMongoLog_k12_k2
  conv => lhs; zeta   -- as in `blkQ`
  rw [forIn_first (fun p => isPrefix p (strOrEmpty (lookup s_ns attr))) _ false true (fun path => ?_)]
  · cases g.eagerRedactionPaths.any fun p => isPrefix p (strOrEmpty (lookup s_ns attr)) <;> rfl
  · show (if hasPrefix (asStr (objGet attr s_ns).1).1 path = true then _ else _) = _
    rw [asStr_objGet, hasPrefix, ← isPrefix_eq]
    exact (apply_ite some _ _ _).symm

/-- the attribute rewrite the continuations from statement 12 on perform -/
def attrFrom12 (paths : List Str) (attr : List (Str × J)) (gate : Bool) : List (Str × J) :=
  let a2 :=
    if gate = true then
      let eager := paths.any fun p => isPrefix p (strOrEmpty (lookup s_ns attr))
      let cx : Ctx := Ctx.mk T (absCfg g) eager
      let a := updAt s_command cx.cmdDoc (updAt s_cmd cx.cmdDoc (updAt s_originatingCommand cx.cmdDoc attr))
      if eager = true then updAt s_planSummary (strF g.redactFieldNamesFromPlanSummary) a else a
    else attr
  if g.redactNamespaces = true then updAt s_ns (strF (hashName g.redactedString)) a2 else a2

/-- the two invariants of the chain pass through an update (`nodupKeys_updAt`, Props/Src/Dispatch) -/
theorem nodupKeys_ite_updAt (b : Bool) (k : Str) (f : J → J) {attr : List (Str × J)} (h : nodupKeys (keysOf attr) = true) :
    nodupKeys (keysOf (if b = true then updAt k f attr else attr)) = true := by
  cases b
  · exact h
  · exact nodupKeys_updAt k f h

theorem forall_lookup_obj_updAt_ne {P : List (Str × J) → Prop} {K K' : Str} (hne : K ≠ K') (f : J → J) {attr : List (Str × J)}
    (h : ∀ m, lookup K attr = some (.obj m) → P m) : ∀ m, lookup K (updAt K' f attr) = some (.obj m) → P m := by
  intro m hm; rw [lookup_updAt, if_neg hne] at hm; exact h m hm

/-- every fact about concrete key strings that `k12_eq` and `k3_eq_obj` need -/
theorem line_keys : s_cmd ≠ s_originatingCommand ∧ s_command ≠ s_cmd ∧ s_command ≠ s_originatingCommand ∧ s_c ≠ s_attr ∧ s_msg ≠ s_attr := by
  refine ⟨toList_ne ?_, toList_ne ?_, toList_ne ?_, toList_ne ?_, toList_ne ?_⟩ <;> simp only [String.reduceNe]

/-- statements 12 – 14: the gate and everything behind it -/
theorem k12_eq (env : Env g T) (hsf : T.searchedFields = [s_ns, s_aggregate, s_insert, s_find, s_update, s_collection, s_delete, s__24db, s_count,
      s_findAndModify, s_findOneAndDelete, s_replace, s_findOneAndReplace, s_findOneAndUpdate, s_getIndexes, s_countDocuments, s_distinct, s_mapReduce,
      s_findandmodify]) (attr : List (Str × J)) (hnd : nodupKeys (keysOf attr) = true)
    (hdoc : ∀ K m, lookup K attr = some (.obj m) → (J.obj m).nodup = true ∧ 2 * depthKVs m < fuel) :
    RedactMongoLog_k12 g T fuel jsonStr (W attr E1) err attrVal hasAttr attr ok_5 cVal msgVal c msg =
      some (W (attrFrom12 g T g.eagerRedactionPaths attr ((((c == s_COMMAND) || (c == s_QUERY)) || (c == s_WRITE)) || (msg == s_Slow_20query))) E1, false) := by
  cases hgate : ((((c == s_COMMAND) || (c == s_QUERY)) || (c == s_WRITE)) || (msg == s_Slow_20query))
  · exact (if_neg (fun h => Bool.noConfusion (hgate.symm.trans h))).trans (k13_eq g T fuel jsonStr E1 err attrVal hasAttr ok_5 cVal msgVal c msg attr hnd)
  · exact (if_pos hgate).trans <| (k12_k2_eq g T fuel jsonStr err attrVal hasAttr ok_5 cVal msgVal c msg (W attr E1) attr).trans <|
      (k12_k3_eq g T fuel jsonStr E1 err attrVal hasAttr ok_5 cVal msgVal c msg env hsf attr hnd _ (hdoc _)).trans <|
      (k12_k5_eq g T fuel jsonStr E1 err attrVal hasAttr ok_5 cVal msgVal c msg env hsf _ (nodupKeys_updAt _ _ hnd) _ _ _
        (forall_lookup_obj_updAt_ne line_keys.1 _ (hdoc _))).trans <|
      (k12_k7_eq g T fuel jsonStr E1 err attrVal hasAttr ok_5 cVal msgVal c msg env hsf _ (nodupKeys_updAt _ _ (nodupKeys_updAt _ _ hnd)) _ _ _ _ _
        (forall_lookup_obj_updAt_ne line_keys.2.1 _ (forall_lookup_obj_updAt_ne line_keys.2.2.1 _ (hdoc _)))).trans <|
      (k12_k8_eq g T fuel jsonStr E1 err attrVal hasAttr ok_5 cVal msgVal c msg _
        (nodupKeys_updAt _ _ (nodupKeys_updAt _ _ (nodupKeys_updAt _ _ hnd))) _ _ _ _ _).trans <|
      k13_eq g T fuel jsonStr E1 err attrVal hasAttr ok_5 cVal msgVal c msg _
        (nodupKeys_ite_updAt _ _ _ (nodupKeys_updAt _ _ (nodupKeys_updAt _ _ (nodupKeys_updAt _ _ hnd))))

/-- the `--redactIPs` rewrite of `attr.remote` -/
def ipF (T : Tables) : J → J
  | .str _ => .str T.ipPH
  | v => v

def attrIP (attr : List (Str × J)) : List (Str × J) := if g.redactIPs = true then updAt s_remote (ipF T) attr else attr

/-- the address rewrite turns no value into a document: a document under a key of the rewritten `attr` was there before -/
theorem lookup_attrIP_obj {attr : List (Str × J)} {K : Str} {m : List (Str × J)} (h : lookup K (attrIP g T attr) = some (.obj m)) :
    lookup K attr = some (.obj m) := by
  unfold attrIP at h
  split at h
  · rw [lookup_updAt] at h
    split at h
    · obtain ⟨v, hv, e⟩ := Option.map_eq_some_iff.mp h
      cases v <;> cases e
      exact hv
    · exact h
  · exact h

theorem W_self (E0 attr0 : List (Str × J)) (hl : lookup s_attr E0 = some (.obj attr0)) : W attr0 E0 = E0 := setKV_lookup hl

/-- statements 3 – 14 when `attr` is a document: the address rewrite, then the gate and what follows -/
theorem k3_eq_obj (env : Env g T) (hsf : T.searchedFields = [s_ns, s_aggregate, s_insert, s_find, s_update, s_collection, s_delete, s__24db, s_count,
      s_findAndModify, s_findOneAndDelete, s_replace, s_findOneAndReplace, s_findOneAndUpdate, s_getIndexes, s_countDocuments, s_distinct, s_mapReduce,
      s_findandmodify]) (hip : T.ipPH = s_255_2e255_2e255_2e255_3a65535)
    (E0 attr0 : List (Str × J)) (hnd : (J.obj E0).nodup = true) (hdepth : 2 * depthKVs E0 < fuel) (hl : lookup s_attr E0 = some (.obj attr0)) :
    RedactMongoLog_k3 g T fuel jsonStr E0 false =
      some (W (attrFrom12 g T g.eagerRedactionPaths (attrIP g T attr0)
        ((((strOrEmpty (lookup s_c E0) == s_COMMAND) || (strOrEmpty (lookup s_c E0) == s_QUERY)) || (strOrEmpty (lookup s_c E0) == s_WRITE)) ||
          (strOrEmpty (lookup s_msg E0) == s_Slow_20query))) E0, false) := by
  have hattr0 : (J.obj attr0).nodup = true := J.nodup_of_lookup E0 hnd _ _ hl
  have hka := J.nodup_keys attr0 hattr0
  have hd0 : depthKVs attr0 < depthKVs E0 := depth_obj_lt attr0 E0 _ hl
  -- the entry and `attr` after statement 3
  have h3 : RedactMongoLog_k3 g T fuel jsonStr E0 false = RedactMongoLog_k4 g T fuel jsonStr (W (attrIP g T attr0) E0) false := by
    unfold RedactMongoLog_k3 attrIP
    cases hips : g.redactIPs
    · simp only [Bool.false_eq_true, ↓reduceIte, W_self E0 attr0 hl]
    · cases hr : lookup s_remote attr0 with
      | none => simp only [↓reduceIte, objGet, hl, asObj, hr, Bool.false_eq_true, lookup_none_updAt s_remote _ attr0 hr, W_self E0 attr0 hl]
      | some v =>
        cases v with
        | str s0 =>
          have := setKV_updAt s_remote (ipF T) attr0 (.str s0) hka hr
          simp only [ipF, hip] at this
          simp only [objGet, hl, asObj, hr, asStr, if_true, this, W]
        | _ =>
          have hfix := updAt_fix s_remote (ipF T) attr0 _ hka hr rfl
          simp only [↓reduceIte, objGet, hl, asObj, hr, asStr, Bool.false_eq_true, hfix, W_self E0 attr0 hl]
  rw [h3]
  have hka1 : nodupKeys (keysOf (attrIP g T attr0)) = true := nodupKeys_ite_updAt _ _ _ hka
  have hlW : objGet (W (attrIP g T attr0) E0) s_attr = (J.obj (attrIP g T attr0), true) := by
    unfold objGet W; rw [lookup_setKV_same]
  have hc : objGet (W (attrIP g T attr0) E0) s_c = objGet E0 s_c := by
    unfold objGet W; rw [lookup_setKV_ne s_c s_attr _ line_keys.2.2.2.1]
  have hm : objGet (W (attrIP g T attr0) E0) s_msg = objGet E0 s_msg := by
    unfold objGet W; rw [lookup_setKV_ne s_msg s_attr _ line_keys.2.2.2.2]
  unfold RedactMongoLog_k4 RedactMongoLog_k5 RedactMongoLog_k6 RedactMongoLog_k7 RedactMongoLog_k8 RedactMongoLog_k9 RedactMongoLog_k10 RedactMongoLog_k11
  simp only [hlW, hc, hm, asObj, isNull, Bool.not_true, Bool.or_false, Bool.false_eq_true, if_false, pure, asStr_objGet]
  rw [k12_eq g T fuel jsonStr E0 false _ true true _ _ _ _ env hsf (attrIP g T attr0) hka1]
  intro K m hKm
  have hKm0 := lookup_attrIP_obj g T hKm
  refine ⟨J.nodup_of_lookup attr0 hattr0 _ _ hKm0, ?_⟩
  have := depth_obj_lt m attr0 _ hKm0
  omega

/-- statements 3 – 7 when `attr` is absent or not a document: the entry is returned as it is -/
theorem k3_eq_other (E0 : List (Str × J)) (h : ∀ a, lookup s_attr E0 ≠ some (.obj a)) :
    RedactMongoLog_k3 g T fuel jsonStr E0 false = some (E0, false) := by
  unfold RedactMongoLog_k3 RedactMongoLog_k4 RedactMongoLog_k5 RedactMongoLog_k6 RedactMongoLog_k7
  cases hl : lookup s_attr E0 with
  | none => cases g.redactIPs <;> simp only [↓reduceIte, objGet, hl, Bool.false_eq_true, Bool.not_false, Bool.true_or, Option.pure_def]
  | some v =>
    cases v with
    | obj a => exact absurd hl (h a)
    | null => cases g.redactIPs <;> simp only [↓reduceIte, objGet, hl, asObj, Bool.false_eq_true, Bool.not_true, isNull, Bool.or_true, Option.pure_def]
    | _ => cases g.redactIPs <;>
        simp only [↓reduceIte, objGet, hl, asObj, Bool.false_eq_true, Bool.not_true, isNull, Bool.or_self, Bool.not_false, Option.pure_def]

theorem cmdKeys_map (cd : J → J) (attr : List (Str × J)) :
    attr.map (fun p => (p.1, if cmdKeys.contains p.1 then cd p.2 else p.2)) =
      updAt s_command cd (updAt s_cmd cd (updAt s_originatingCommand cd attr)) := by
  have h := foldl_updAt_const cd [s_originatingCommand, s_cmd, s_command] attr
    (nodupKeys_toList
      (by simp only [List.nodup_cons, List.mem_cons, List.not_mem_nil, String.reduceEq, or_self, not_false_eq_true, List.nodup_nil, and_self] :
        ["originatingCommand", "cmd", "command"].Nodup) rfl)
  have hk : cmdKeys = [s_originatingCommand, s_cmd, s_command] := rfl
  rw [List.foldl_cons, List.foldl_cons, List.foldl_cons, List.foldl_nil] at h
  rw [h, hk]
  apply List.map_congr_left
  intro p _
  cases [s_originatingCommand, s_cmd, s_command].contains p.1 <;> rfl

theorem updAt_map (k : Str) (f : J → J) (l : List (Str × J)) : updAt k f l = l.map (uAt k f) := rfl

/-- the address rewrite followed by the attribute rewrite of the continuations is the model's `redactAttr` (= `redactAttrWith Ctx.cmdDoc`) -/
theorem attrFrom12_model (plan : Str → Str → Str) (hplan : ∀ s, g.redactFieldNamesFromPlanSummary s = plan g.redactedString s)
    (attr0 : List (Str × J)) (gate : Bool) :
    attrFrom12 g T g.eagerRedactionPaths (attrIP g T attr0) gate =
      redactAttrWith Ctx.cmdDoc T (absCfg g) g.eagerRedactionPaths plan gate attr0 := by
  have hp : g.redactFieldNamesFromPlanSummary = plan g.redactedString := funext hplan
  unfold redactAttrWith attrFrom12 attrIP
  simp only [mapKey_eq_updAt, cmdKeys_map, hp]
  -- what is left: `absCfg`'s fields, the model's names of the keys, and its `match`es against `ipF` / `strF`
  rfl

/-- **`RedactMongoLog` is the model's `redactLine`** — for every line the JSON reader accepts as an object without duplicate
    keys at any level, every setting of the option variables, and fuel beyond twice the nesting depth: the translated function
    returns (no panic anywhere below it) the pair (model's redacted entry, no error) -/
theorem RedactMongoLog_eq (env : Env g T) (hsf : T.searchedFields = [s_ns, s_aggregate, s_insert, s_find, s_update, s_collection, s_delete, s__24db, s_count,
      s_findAndModify, s_findOneAndDelete, s_replace, s_findOneAndReplace, s_findOneAndUpdate, s_getIndexes, s_countDocuments, s_distinct, s_mapReduce,
      s_findandmodify]) (hip : T.ipPH = s_255_2e255_2e255_2e255_3a65535)
    (plan : Str → Str → Str) (hplan : ∀ s, g.redactFieldNamesFromPlanSummary s = plan g.redactedString s)
    (line : Str) (E0 : List (Str × J)) (hparse : g.UnmarshalOrdered (utf8 line) = some E0)
    (hnd : (J.obj E0).nodup = true) (hdepth : 2 * depthKVs E0 < fuel) :
    RedactMongoLog g T fuel line = some (redactLine T (absCfg g) g.eagerRedactionPaths plan E0, false) := by
  unfold RedactMongoLog RedactMongoLog_k1 RedactMongoLog_k2
  simp only [hparse, errPairObj, Bool.not_false, Bool.not_true, Bool.false_eq_true, if_false, pure]
  unfold redactLine redactLineWith
  rw [← s_attr_eq]
  by_cases hobj : ∃ attr0, lookup s_attr E0 = some (.obj attr0)
  · obtain ⟨attr0, hl⟩ := hobj
    rw [hl]
    dsimp only
    rw [k3_eq_obj g T fuel line env hsf hip E0 attr0 hnd hdepth hl, attrFrom12_model g T plan hplan]
    -- the model rebuilds the entry with `mapKey`; with distinct keys that is the `Set` on `attr`
    rw [mapKey_eq_updAt, ← setKV_updAt s_attr _ E0 (.obj attr0) (J.nodup_keys E0 hnd) hl]
    dsimp only
    unfold W
    have hgate : gated E0 = ((((strOrEmpty (lookup s_c E0) == s_COMMAND) || (strOrEmpty (lookup s_c E0) == s_QUERY)) || (strOrEmpty (lookup s_c E0) == s_WRITE)) ||
        (strOrEmpty (lookup s_msg E0) == s_Slow_20query)) := by
      unfold gated gateComponents
      simp only [List.map_cons, List.map_nil, List.contains_cons, List.contains_nil, Bool.or_false, Bool.or_assoc, ← Bool.beq_eq_decide_eq]
      rfl
    rw [hgate]
  · rw [k3_eq_other g T fuel line E0 fun a h => hobj ⟨a, h⟩]
    cases hl : lookup s_attr E0 with
    | none => rfl
    | some v =>
      cases v with
      | obj a => exact absurd ⟨a, hl⟩ hobj
      | _ => rfl

/-- a line the JSON reader rejects: the error is returned, nothing else happens -/
theorem RedactMongoLog_err (line : Str) (hparse : g.UnmarshalOrdered (utf8 line) = none) :
    RedactMongoLog g T fuel line = some ([], true) := by
  unfold RedactMongoLog RedactMongoLog_k1 RedactMongoLog_k2
  simp only [errPairObj, hparse, Bool.not_true, Bool.not_false, ↓reduceIte, Option.pure_def]

/-- the address placeholder of the regenerated constants is the literal `RedactMongoLog` writes -/
theorem Gen_ipPH : Generated.tables.ipPH = s_255_2e255_2e255_2e255_3a65535 := rfl

/-- `RedactMongoLog_eq` for the tables regenerated from the binary: only the three untranslated callees remain as hypotheses -/
theorem RedactMongoLog_eq_gen (hP : ∀ (st : J) (rfn : Bool) (kp : List Str) (S : Bool),
      g.redactPipelineStage st rfn kp S = some ((Ctx.mk Generated.tables (absCfg g) rfn).P S kp st))
    (plan : Str → Str → Str) (hplan : ∀ s, g.redactFieldNamesFromPlanSummary s = plan g.redactedString s)
    (line : Str) (E0 : List (Str × J)) (hparse : g.UnmarshalOrdered (utf8 line) = some E0)
    (hnd : (J.obj E0).nodup = true) (hdepth : 2 * depthKVs E0 < fuel) :
    RedactMongoLog g Generated.tables fuel line = some (redactLine Generated.tables (absCfg g) g.eagerRedactionPaths plan E0, false) :=
  RedactMongoLog_eq g Generated.tables fuel ⟨Gen_emailPH, hP⟩ Gen_searchedFields Gen_ipPH plan hplan line E0 hparse hnd hdepth

end Anonymongo.Src
