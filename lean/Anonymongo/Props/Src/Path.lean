/-
  Props/Src/Path.lean — the TRANSLATED `traverseMapPath` and `getOp` are the model's `traverse` / `getOp` (Model/Tables.lean): for every key
  path (for `getOp`: every non-empty one, which is what every call site passes), table and fuel larger than the path's length the Go
  function returns and its two results are the model's answer.  `traverseMapPath_spec` characterises the unfolded function by equations
  (`F`, `K` found by unification); `traverseMapPath_step` is the induction over the path on those equations alone, a `.restart` being the
  recursive call - on a strictly shorter path, whence the fuel bound.
-/
import Anonymongo.Props.Src.PathFns
namespace Anonymongo.Src
open Anonymongo Anonymongo.Go

/-- a re-entry of `traverseMapPath` is always on a strictly shorter path -/
theorem traverseLoop_restart_shorter (T : Tables) (S : Bool) (full : List Str) :
    ∀ (rest : List Str) (m : MTable) (p : List Str) (t : MTable), rest.length ≤ full.length →
      traverseLoop T S full rest m = .restart p t → p.length < full.length
  | [], m, p, t, _, h => by rw [traverseLoop] at h; cases h
  | part :: rest, m, p, t, hl, h => by
    rw [traverseLoop] at h
    have hl' : rest.length < full.length := hl
    cases hlk : lookup part m with
    | none => rw [hlk] at h; cases h
    | some val =>
      rw [hlk] at h
      dsimp only at h
      split at h
      · -- an operator array: the restart is on the rest of the path
        cases h; exact hl'
      · split at h
        · -- an operator map: the path is cut, and the source restarts only if that made it shorter
          split at h
          · split at h
            · cases h; assumption
            · cases h
          · cases h
        · cases rest with
          | nil => cases val <;> cases h
          | cons y ys =>
            cases val with
            | map m'' => exact traverseLoop_restart_shorter T S full (y :: ys) m'' p t (by omega) h
            | _ => cases h

/-- `op, isOp := getOp(…); if !isOp { B } else if op == T { A } else { B }` tests whether the model's lookup result is the type `T` -/
theorem ite_pairOf_isTy {α : Type} (o : Option Meta) (t : OpT) (a b : α) :
    (if (!(pairOf o).2) = true then b else if metaEq (pairOf o).1 (.ty t) = true then a else b) = if isTy? o t = true then a else b := by
  cases o with
  | none => rfl
  | some m => cases m <;> rfl

/-- Go's `if current != nil { return current, true }; return nil, false` as a model lookup result -/
def endOf : Meta → Option Meta
  | .nil => none
  | v => some v

theorem ret_endOf (v : Meta) :
    (if (!metaEq v Meta.nil) = true then some (v, true) else some (Meta.nil, false)) = some (pairOf (endOf v)) := by
  cases v <;> rfl

theorem endOf_of_isTy {v : Meta} {t : OpT} (h : v.isTy t = true) : endOf v = some v := by
  cases v with
  | ty t => rfl
  | _ => cases h

/-- `len(path) > i+1` at the `i`-th element: there are elements left -/
theorem len_gt_succ (pre : List Str) (x : Str) (rest : List Str) :
    decide (len (pre ++ x :: rest) > (pre.length : Int) + 1) = !rest.isEmpty := by
  cases rest with
  | nil => simp [len]
  | cons y ys => simp [len]; omega

/-- the loop state: the pending `return` value, `current`, `isOpMap`, `cutOffPart` -/
abbrev TravSt := Option (Meta × Bool) × Meta × Bool × Str

/-- `traverseMapPath` is a loop with body `F` followed by `K`; what `F` does on the states the loop keeps, and what `K` does on the
    states the loop ends with -/
theorem traverseMapPath_spec (g : Globals) (T : Tables) (S : Bool) (fuel : Nat) (path : List Str) :
    ∃ (F : Str × Nat → TravSt → Option (ForInStep TravSt)) (K : TravSt → Option (Meta × Bool)),
      (∀ m, traverseMapPath g T (fuel + 1) path m S = forIn path.zipIdx (none, .map m, false, s_empty) F >>= K) ∧
      -- the body, `current` a table
      (∀ part (i : Nat) m', F (part, i) (none, .map m', false, s_empty) =
        match lookup part m' with
        | none => some (.done (some (Meta.nil, false), .map m', false, s_empty))
        | some val =>
          if (decide (len path > (i : Int) + 1) && val.isTy .OperatorArray) = true then
            (sliceFrom path ((i : Int) + 1) >>= fun p => traverseMapPath g T fuel p (if S then T.search else T.core) S) >>=
              fun r => some (.done (some r, val, false, s_empty))
          else if val.isTy .OperatorMap = true then some (.done (none, val, true, part))
          else some (.yield (none, val, false, s_empty))) ∧
      -- the body, `current` not a table
      (∀ part (i : Nat) v, (∀ m', v ≠ .map m') →
        F (part, i) (none, v, false, s_empty) = some (.done (some (Meta.nil, false), v, false, s_empty))) ∧
      -- after the loop: a pending `return`; no operator map met; an operator map met at `part`
      (∀ r cur b c, K (some r, cur, b, c) = some r) ∧
      (∀ cur c, K (none, cur, false, c) = some (pairOf (endOf cur))) ∧
      (∀ cur part, K (none, cur, true, part) =
        match lookup part T.opMapDefs with
        | some (.map om) =>
          if (removeElementsBeforeIncluding part (removeElementAfter part path)).length < path.length then
            traverseMapPath g T fuel (removeElementsBeforeIncluding part (removeElementAfter part path)) om S
          else some (pairOf (endOf cur))
        | _ => some (pairOf (endOf cur))) := by
  refine ⟨?F, ?K, fun m => ?unf, ?body, ?bodyNoTable, ?ret, ?fin, ?cut⟩
  case unf => rw [traverseMapPath]
  case body =>
    intro part i m'
    cases hl : lookup part m' with
    | none => simp only [asTable, tblGet_eq, hl, pairOf, Bool.not_true, Bool.not_false, if_true, if_false,
        Bool.false_eq_true, pure]
    | some val =>
      cases S <;>
      simp only [asTable, tblGet_eq, hl, pairOf, metaEq_isTy, Bool.not_true, if_true, if_false,
        Bool.false_eq_true, pure, bind, Option.bind_assoc]
  case bodyNoTable =>
    intro part i v hv
    simp only [asTable_not_map v hv, Bool.not_false, if_true, pure]
  case ret => intro r cur b c; rfl
  case fin =>
    intro cur c
    simp only [Bool.false_eq_true, if_false, ret_endOf, pure]
  case cut =>
    intro cur part
    simp only [if_true, tblGet_eq, RemoveElementAfter_eq, RemoveElementsBeforeIncluding_eq, some_bind, len, ret_endOf, pure,
      Int.ofNat_lt, decide_eq_true_eq]
    cases lookup part T.opMapDefs with
    | none => simp only [pairOf, asTable, Bool.false_eq_true, if_false, ite_self]
    | some ov =>
      cases ov <;> simp only [pairOf, asTable, Bool.false_eq_true, if_false, if_true, ite_self]

/-- the loop of `traverseMapPath` on a suffix of the path, followed by the rest of the function, is `traverseLoop` -/
theorem traverseMapPath_step (g : Globals) (T : Tables) (S : Bool) (fuel : Nat) (path : List Str) (m : MTable) :
    traverseMapPath g T (fuel + 1) path m S =
      match traverseLoop T S path path m with
      | .done r => some (pairOf r)
      | .restart p t => traverseMapPath g T fuel p t S := by
  obtain ⟨F, K, unf, body, bodyNoTable, ret, fin, cut⟩ := traverseMapPath_spec g T S fuel path
  have loop : ∀ (rest pre : List Str) (m' : MTable), pre ++ rest = path →
      forIn (rest.zipIdx pre.length) (none, .map m', false, s_empty) F >>= K =
        match traverseLoop T S path rest m' with
        | .done r => some (pairOf r)
        | .restart p t => traverseMapPath g T fuel p t S := by
    intro rest
    induction rest with
    | nil => intro pre m' _; exact fin _ _
    | cons part rest ih =>
      intro pre m' hp
      have step := body part pre.length m'
      rw [← hp, len_gt_succ, hp] at step
      rw [List.zipIdx_cons, traverseLoop]
      cases hl : lookup part m' with
      | none =>
        rw [hl] at step
        exact forIn_cons_return_val _ _ _ _ _ _ K step (ret _ _ _ _)
      | some val =>
        rw [hl] at step
        dsimp only at step ⊢
        by_cases hoa : (!rest.isEmpty && val.isTy .OperatorArray) = true
        · -- OperatorArray with elements left: `return traverseMapPath(path[i+1:], …)`
          have hsl : sliceFrom path ((pre.length : Int) + 1) = some rest := by rw [← hp]; exact sliceFrom_app1 _ _ _
          rw [if_pos hoa, hsl, some_bind] at step
          rw [if_pos hoa]
          exact forIn_cons_return _ _ _ _ _ _ K step (fun r => ret r _ _ _)
        · rw [if_neg hoa] at step ⊢
          by_cases hom : val.isTy .OperatorMap = true
          · -- OperatorMap: `break`, and the path is cut
            rw [if_pos hom] at step ⊢
            rw [forIn_cons_done _ _ _ _ _ step, some_bind, cut, endOf_of_isTy hom]
            cases lookup part T.opMapDefs with
            | none => rfl
            | some ov =>
              cases ov with
              | map om => dsimp only; split <;> rfl
              | _ => rfl
          · rw [if_neg hom] at step ⊢
            rw [forIn_cons_yield _ _ _ _ _ step]
            cases rest with
            | nil => rw [List.zipIdx_nil, List.forIn_nil]; cases val <;> exact fin _ _
            | cons y ys =>
              cases val with
              | map m'' =>
                have := ih (pre ++ [part]) m'' (by rw [List.append_assoc]; exact hp)
                rw [List.length_append, List.length_singleton] at this
                exact this
              | _ =>
                -- not a table and elements left: the next iteration returns `nil, false`
                rw [List.zipIdx_cons]
                exact forIn_cons_return_val _ _ _ _ _ _ K (bodyNoTable _ _ _ (fun _ h => Meta.noConfusion h)) (ret _ _ _ _)
  rw [unf]
  exact loop path [] m rfl

/-- more fuel than the path is long is enough for the model's traversal, and then the amount does not matter -/
theorem traverseFuel_enough (T : Tables) (S : Bool) : ∀ (fuel : Nat) (path : List Str) (m : MTable), path.length < fuel →
    traverseFuel T S fuel path m = traverse T S path m := by
  intro fuel
  induction fuel using Nat.strongRecOn with
  | _ fuel ih =>
    intro path m hlt
    cases fuel with
    | zero => omega
    | succ f =>
      unfold traverse
      rw [traverseFuel, traverseFuel]
      cases hs : traverseLoop T S path path m with
      | done r => rfl
      | restart p t =>
        have hp := traverseLoop_restart_shorter T S path path m p t (Nat.le_refl _) hs
        dsimp only
        rw [ih f (Nat.lt_succ_self f) p t (by omega), ih path.length (by omega) p t hp]

/-- **`traverseMapPath` is the model's `traverse`**: with more fuel than the path is long the Go function returns, and returns
    the model's answer -/
theorem traverseMapPath_eq (g : Globals) (T : Tables) (S : Bool) : ∀ (fuel : Nat) (path : List Str) (m : MTable),
    path.length < fuel → traverseMapPath g T fuel path m S = some (pairOf (traverse T S path m)) := by
  intro fuel
  induction fuel with
  | zero => intro path m h; omega
  | succ f ih =>
    intro path m hlt
    rw [traverseMapPath_step, ← traverseFuel_enough T S (f + 1) path m hlt, traverseFuel]
    cases hs : traverseLoop T S path path m with
    | done r => rfl
    | restart p t =>
      have hp := traverseLoop_restart_shorter T S path path m p t (Nat.le_refl _) hs
      dsimp only
      rw [ih p t (by omega), traverseFuel_enough T S f p t (by omega)]

/-- **`getOp` is the model's `getOp`** for the non-empty key paths every call site passes -/
theorem getOp_eq (g : Globals) (T : Tables) (fuel : Nat) (kp : List Str) (S : Bool) (hne : kp ≠ []) (hf : kp.length < fuel) :
    getOp g T fuel kp S = some (pairOf (Anonymongo.getOp T kp S)) := by
  unfold getOp Anonymongo.getOp
  cases S with
  | true =>
    simp only [if_true, traverseMapPath_eq g T true fuel kp _ hf, withinSearchUserDocument_eq, idx_last kp hne, bind, Option.bind, pure]
    cases ht : traverse T true kp T.searchAgg with
    | some m' => simp [pairOf]
    | none =>
      cases hw : Anonymongo.withinSearchUserDocument kp with
      | true => simp [pairOf]
      | false =>
        cases hl : lookup (lastD kp) T.search <;> simp [pairOf, tblGet, hl]
  | false =>
    simp only [Bool.false_eq_true, if_false, traverseMapPath_eq g T false fuel kp _ hf, idx_last kp hne, bind, Option.bind, pure]
    cases hl : lookup (lastD kp) T.core with
    | some m' => simp [pairOf, tblGet, hl]
    | none =>
      cases ht : traverse T false kp T.agg <;> simp [pairOf, tblGet, hl]

end Anonymongo.Src
