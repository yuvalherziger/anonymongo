/-
  Props/Src/Walk.lean — the TRANSLATED query walker and array walker (`redactQueryValues`, `redactArrayValuesWithKey`,
  Generated/Src.lean: one `mutual` block, recursion through a fuel argument) ARE the model's `Q` and `A` (Model/Walk.lean):
  for every document / array, every flag setting and every fuel that exceeds the key-path length plus twice the nesting
  depth, the Go functions return (no panic, the recursion ends) and return the model's tree.  By induction on the fuel (`QA_all`, the
  claim being `QAClaim`), one level per step: in `Q_step` the loop is a fold of `Set`s (`forIn_yield_fold_mem`, Props/Src/Base; `foldl_Q`), in
  `A_step` a loop that overwrites slot `i` with a function of element `i` is `map` (`forIn_zipIdx_setmap`, Props/Src/Base; `A_eq_map`).
-/
import Anonymongo.Props.Src.Scalar
import Anonymongo.Props.Src.Helpers
import Anonymongo.Props.Src.Hash
namespace Anonymongo.Src
open Anonymongo Anonymongo.Go

mutual
/-- nesting depth: a scalar is 0, a container one more than its deepest member -/
def depth : J → Nat
  | .arr xs => depthList xs + 1
  | .obj kvs => depthKVs kvs + 1
  | _ => 0
def depthList : List J → Nat
  | [] => 0
  | x :: xs => max (depth x) (depthList xs)
def depthKVs : List (Str × J) → Nat
  | [] => 0
  | (_, v) :: r => max (depth v) (depthKVs r)
end

theorem depth_mem_list : ∀ (xs : List J) (x : J), x ∈ xs → depth x ≤ depthList xs
  | _ :: _, _, .head _ => Nat.le_max_left _ _
  | _ :: ys, x, .tail _ h => Nat.le_trans (depth_mem_list ys x h) (Nat.le_max_right _ _)

theorem depth_mem_kvs : ∀ (kvs : List (Str × J)) (e : Str × J), e ∈ kvs → depth e.2 ≤ depthKVs kvs
  | _ :: _, _, .head _ => Nat.le_max_left _ _
  | _ :: r, e, .tail _ h => Nat.le_trans (depth_mem_kvs r e h) (Nat.le_max_right _ _)

theorem depth_lookup (cmd : List (Str × J)) (k : Str) (v : J) (h : lookup k cmd = some v) : depth v ≤ depthKVs cmd :=
  depth_mem_kvs cmd (k, v) (mem_of_lookup h)

theorem depth_obj_lt (m : List (Str × J)) (cmd : List (Str × J)) (k : Str) (h : lookup k cmd = some (.obj m)) : depthKVs m < depthKVs cmd := by
  have := depth_lookup cmd k _ h
  rw [depth] at this; omega

/-- Go's `parentCoreOp` for the model's `pc` -/
def pcGo : Option Meta → Meta
  | some m => m
  | none => .nil

/-- the `Set`s of the model's entries on a map are a fold over the document (`fromPairs` is the case `init = []`) -/
theorem foldl_Q (c : Ctx) (S : Bool) (pc : Option Meta) (kp : List Str) : ∀ (obj init : List (Str × J)),
    (c.Q S pc kp obj).foldl (fun acc p => setKV p.1 p.2 acc) init =
      obj.foldl (fun acc e => setKV (c.qKey (c.qOp pc e.1) e.1) (c.QVal S (c.qOp pc e.1) e.1 (kp ++ [e.1]) e.2) acc) init
  | [], _ => rfl
  | (_, _) :: rest, _ => foldl_Q c S pc kp rest _

theorem A_eq_map (c : Ctx) (S : Bool) (pk : Str) (sel : Bool) (kp : List Str) : ∀ (arr : List J),
    c.A S pk sel kp arr = arr.map (c.AElem S pk sel kp)
  | [] => rfl
  | _ :: xs => congrArg (_ :: ·) (A_eq_map c S pk sel kp xs)

/-- the statement proved by induction on the fuel -/
def QAClaim (g : Globals) (T : Tables) (rfn S : Bool) (fuel : Nat) : Prop :=
  (∀ (obj : List (Str × J)) (pc : Option Meta) (kp : List Str), kp.length + 2 * depthKVs obj + 2 < fuel →
      redactQueryValues g T fuel obj rfn S (pcGo pc) kp = some (fromPairs ((Ctx.mk T (absCfg g) rfn).Q S pc kp obj))) ∧
  (∀ (arr : List J) (pk : Str) (sel : Bool) (kp : List Str), kp.length + 2 * depthList arr + 2 < fuel →
      redactArrayValuesWithKey g T fuel pk arr rfn S sel kp = some ((Ctx.mk T (absCfg g) rfn).A S pk sel kp arr))

/-- the `"$…"` test of both walkers, in either spelling of "not empty" (`len(str) > 0`, whatever `Decidable` instance the
    elaborator left in the term, and `str != ""`) -/
theorem dollarTest_str (s : Str) :
    (∀ inst : Decidable (strLen s > 0), goAnd (some (true && @decide _ inst)) (fun _ => strByte0Is s '$') = some (dollarPrefixed s)) ∧
    goAnd (some (true && !(s == s_empty))) (fun _ => strByte0Is s '$') = some (dollarPrefixed s) := by
  have main : goAnd (some (true && !s.isEmpty)) (fun _ => strByte0Is s '$') = some (dollarPrefixed s) := by
    cases s with
    | nil => rfl
    | cons c r => exact congrArg some (dollarPrefixed_cons c r).symm
  exact ⟨fun inst => by rw [← main, ← decide_strLen_pos s]; congr, by rw [beq_s_empty, main]⟩

/-- `underMatchingField` of the array walker -/
theorem goOr_sel (g : Globals) (T : Tables) (kp : List Str) (sel : Bool) :
    goOr (some sel) (fun _ => reMatchesAnyKeyInPath g T kp g.redactedFieldsRegexp) = some (sel || reMatchesAny (absCfg g).re kp) := by
  cases sel
  · exact reMatchesAnyKeyInPath_eq g T kp _
  · rfl

/-- the array walker, one level: given the claim for the fuel the recursive calls get -/
theorem A_step (g : Globals) (T : Tables) (rfn S : Bool) (fuel : Nat) (hph : T.emailPH = s_redacted_40redacted_2ecom)
    (ih : QAClaim g T rfn S fuel) (arr : List J) (pk : Str) (sel : Bool) (kp : List Str)
    (hb : kp.length + 2 * depthList arr + 2 < fuel + 1) :
    redactArrayValuesWithKey g T (fuel + 1) pk arr rfn S sel kp = some ((Ctx.mk T (absCfg g) rfn).A S pk sel kp arr) := by
  rw [redactArrayValuesWithKey, A_eq_map]
  refine (congrArg (· >>= _) (forIn_zipIdx_setmap _ _ arr [] fun x hx pre' rest' => ?_)).trans rfl
  have hd := depth_mem_list arr x hx
  have hs := fun v sel' => redactScalarValue_eq g T fuel [pk] v S sel' (List.cons_ne_nil _ _) (by show 1 < fuel; omega) hph
  cases x with
  | obj kvs =>
    have hq := ih.1 kvs none kp (by rw [depth] at hd; omega)
    simp only [pcGo] at hq
    simp only [hq, setIdx_mid, Option.bind_eq_bind, Option.bind_some, Option.pure_def]
    rw [Ctx.AElem]
  | arr ys =>
    have hq := ih.2 ys pk sel kp (by rw [depth] at hd; omega)
    simp only [hq, setIdx_mid, Option.bind_eq_bind, Option.bind_some, Option.pure_def]
    rw [Ctx.AElem]
  | null => rfl
  | str s =>
    -- (`+instances`: `asStr item` also occurs inside the `Decidable` instance of `len(str) > 0`)
    dsimp +instances only [isNull, asStr]
    simp only [Bool.not_false, if_true, Option.pure_def, dollarTest_str, Option.bind_eq_bind, Option.bind_some, Ctx.AElem, Ctx.aElemScalar]
    cases hdp : dollarPrefixed s
    · simp only [Bool.false_eq_true, if_false, goOr_sel, hs, setIdx_mid, Option.bind_some, Ctx.scalar]
    · simp only [if_true, HashName_eq, setIdx_mid, Option.bind_some, Ctx.dollarString, Ctx.H, tblGet_eq]
      cases lookup s T.core <;> cases rfn <;> rfl
  | num _ | bool _ =>
    dsimp +instances only [isNull, asStr]
    simp only [Bool.not_false, if_true, Option.pure_def, Bool.false_and, goAnd_some_false, Option.bind_eq_bind, Option.bind_some,
      Bool.false_eq_true, if_false, goOr_sel, hs, setIdx_mid, Ctx.AElem, Ctx.aElemScalar, Ctx.scalar]

/-- A function of Go's `parentCoreOp` that treats "not a table" (`nil`, an operator type) as the core table agrees with a function of
    the model's operator lookup `qOp pc k` as soon as it does so for the parents that are tables.  Stated over `M` and `co` so that
    `f` and `r` are found by unification with a goal in which `pcGo pc` and `qOp pc k` have been generalized. -/
theorem of_parent_table {β : Type} (c : Ctx) (k : Str) (f : Meta → β) (r : Option Meta → β)
    (hm : ∀ pm, f (.map pm) = r (lookup k pm)) (hn : f .nil = f (.map c.T.core)) (ht : ∀ t, f (.ty t) = f (.map c.T.core)) :
    ∀ pc M, pcGo pc = M → ∀ co, c.qOp pc k = co → f M = r co
  | none, _, rfl, _, rfl | some .nil, _, rfl, _, rfl => hn.trans (hm _)
  | some (.map pm), _, rfl, _, rfl => hm pm
  | some (.ty t), _, rfl, _, rfl => (ht t).trans (hm _)

/-- the query walker, one level -/
theorem Q_step (g : Globals) (T : Tables) (rfn S : Bool) (fuel : Nat) (hph : T.emailPH = s_redacted_40redacted_2ecom)
    (ih : QAClaim g T rfn S fuel) (obj : List (Str × J)) (pc : Option Meta) (kp : List Str)
    (hb : kp.length + 2 * depthKVs obj + 2 < fuel + 1) :
    redactQueryValues g T (fuel + 1) obj rfn S (pcGo pc) kp = some (fromPairs ((Ctx.mk T (absCfg g) rfn).Q S pc kp obj)) := by
  rw [redactQueryValues, fromPairs, foldl_Q]
  refine (congrArg (· >>= _) (forIn_yield_fold_mem _ _ obj [] fun e he acc => ?_)).trans rfl
  -- the parent operator enters through `pcGo pc` on the Go side and through `qOp pc k` on the model's
  generalize hM : pcGo pc = M
  generalize hco : (Ctx.mk T (absCfg g) rfn).qOp pc e.1 = co
  revert M co
  refine of_parent_table (Ctx.mk T (absCfg g) rfn) e.1 _ _ (fun pm => ?_) rfl (fun _ => rfl) pc
  obtain ⟨k, v⟩ := e
  have hd : depth v ≤ depthKVs obj := depth_mem_kvs obj _ he
  have hl : (kp ++ [k]).length = kp.length + 1 := List.length_append
  have hs := fun v => redactScalarValue_eq g T fuel (kp ++ [k]) v S false
    (List.append_ne_nil_of_right_ne_nil _ (List.cons_ne_nil _ _)) (by omega) hph
  simp only [metaEq_nil, asTable_map, tblGet_eq, Bool.not_false, if_true, HashName_eq, Option.bind_eq_bind, Option.bind_some]
  generalize lookup k pm = co
  have hkey : (Ctx.mk T (absCfg g) rfn).qKey co k = if (rfn && !(pairOf co).2) = true then hashName g.redactedString k else k := by
    cases co <;> cases rfn <;> rfl
  have hpar : (pairOf co).1 = pcGo (Ctx.qParent co) ∧ metaEq (pairOf co).1 (Meta.ty OpT.Exempt) = isTy? co .Exempt := by
    rcases co with _ | _ | _ | _ <;> exact ⟨rfl, rfl⟩
  -- the two branches of `if redactFieldNames && !isOp` differ in the key only
  have push : ∀ (F : Str → Option (ForInStep (List (Str × J)))) (x : J),
      (∀ r, F r = some (ForInStep.yield (setKV r x acc))) →
      ∀ a, (if (rfn && !(pairOf co).2) = true then F a else F k) =
        some (ForInStep.yield (setKV (if (rfn && !(pairOf co).2) = true then a else k) x acc)) := by
    intro F x h a
    split <;> exact h _
  rw [hkey]
  generalize hashName g.redactedString k = hk
  revert hk
  refine push _ _ (fun r => ?_)
  cases v with
  | obj val =>
    have hq := ih.1 val (Ctx.qParent co) (kp ++ [k]) (by rw [depth] at hd; omega)
    simp only [hpar.1, hq, Option.bind_some, Option.pure_def]
    rw [Ctx.QVal]
  | arr xs =>
    have hq := ih.2 xs k ((Ctx.mk T (absCfg g) rfn).selArr xs) (kp ++ [k]) (by rw [depth] at hd; omega)
    simp only [isRedactableFieldPatternInArray_eq g T rfn xs, hq, Option.bind_some, Option.pure_def]
    rw [Ctx.QVal]
  | null => rfl
  | str s =>
    dsimp +instances only [isNull, asStr]
    simp only [Bool.not_false, if_true, Option.pure_def, dollarTest_str, Option.bind_some, Ctx.QVal, Ctx.qValScalar, hpar.2]
    cases hdp : dollarPrefixed s
    · cases hx : isTy? co .Exempt <;>
        simp only [Bool.false_eq_true, if_false, if_true, Bool.not_false, Bool.not_true, hs, Option.bind_some, Ctx.scalar]
    · simp only [if_true, Ctx.dollarString, Ctx.H]
      cases lookup s T.core <;> cases rfn <;> rfl
  | num _ | bool _ =>
    dsimp +instances only [isNull, asStr]
    simp only [Bool.not_false, if_true, Option.pure_def, Bool.false_and, goAnd_some_false, Option.bind_some,
      Bool.false_eq_true, if_false, Ctx.QVal, Ctx.qValScalar, hpar.2]
    cases hx : isTy? co .Exempt <;>
      simp only [Bool.false_eq_true, if_false, if_true, Bool.not_false, Bool.not_true, hs, Option.bind_some, Ctx.scalar]

theorem QA_all (g : Globals) (T : Tables) (rfn S : Bool) (hph : T.emailPH = s_redacted_40redacted_2ecom) :
    ∀ fuel, QAClaim g T rfn S fuel
  | 0 => ⟨fun _ _ _ h => absurd h (by omega), fun _ _ _ _ h => absurd h (by omega)⟩
  | fuel + 1 =>
    have ih := QA_all g T rfn S hph fuel
    ⟨fun obj pc kp hb => Q_step g T rfn S fuel hph ih obj pc kp hb, fun arr pk sel kp hb => A_step g T rfn S fuel hph ih arr pk sel kp hb⟩

/-- **`redactQueryValues` is the model's query walker `Q`**: for every document, parent operator, key path and flag setting, with
    fuel beyond the key-path length plus twice the nesting depth, the Go function returns — no panic in any of the functions it
    reaches, the mutual recursion ends — and returns the document the model builds (`fromPairs` = the `Set`s on a fresh map) -/
theorem redactQueryValues_eq (g : Globals) (T : Tables) (rfn S : Bool) (hph : T.emailPH = s_redacted_40redacted_2ecom)
    (fuel : Nat) (obj : List (Str × J)) (pc : Option Meta) (kp : List Str) (hb : kp.length + 2 * depthKVs obj + 2 < fuel) :
    redactQueryValues g T fuel obj rfn S (pcGo pc) kp = some (fromPairs ((Ctx.mk T (absCfg g) rfn).Q S pc kp obj)) :=
  (QA_all g T rfn S hph fuel).1 obj pc kp hb

theorem redactArrayValuesWithKey_eq (g : Globals) (T : Tables) (rfn S : Bool) (hph : T.emailPH = s_redacted_40redacted_2ecom)
    (fuel : Nat) (arr : List J) (pk : Str) (sel : Bool) (kp : List Str) (hb : kp.length + 2 * depthList arr + 2 < fuel) :
    redactArrayValuesWithKey g T fuel pk arr rfn S sel kp = some ((Ctx.mk T (absCfg g) rfn).A S pk sel kp arr) :=
  (QA_all g T rfn S hph fuel).2 arr pk sel kp hb

/-- `redactArrayValues` (the wrapper the stage walker and `redactOperation` call): the array walker with the empty parent key -/
theorem redactArrayValues_eq (g : Globals) (T : Tables) (rfn S : Bool) (hph : T.emailPH = s_redacted_40redacted_2ecom)
    (fuel : Nat) (arr : List J) (sel : Bool) (kp : List Str) (hb : kp.length + 2 * depthList arr + 2 < fuel) :
    redactArrayValues g T fuel arr rfn S sel kp = some ((Ctx.mk T (absCfg g) rfn).A S [] sel kp arr) :=
  redactArrayValuesWithKey_eq g T rfn S hph fuel arr [] sel kp hb

theorem redactQueryValues_eq_gen (g : Globals) (rfn S : Bool) (fuel : Nat) (obj : List (Str × J)) (pc : Option Meta) (kp : List Str)
    (hb : kp.length + 2 * depthKVs obj + 2 < fuel) :
    redactQueryValues g Generated.tables fuel obj rfn S (pcGo pc) kp =
      some (fromPairs ((Ctx.mk Generated.tables (absCfg g) rfn).Q S pc kp obj)) :=
  redactQueryValues_eq g Generated.tables rfn S Gen_emailPH fuel obj pc kp hb

/-- non-vacuity: a filter with a nested document, an array and a reference, through the translated functions themselves -/
example : redactQueryValues { Globals.inert with redactedString := "X".toList, redactNumbers := true } Generated.tables 9
    [("a".toList, .obj [("$gt".toList, .num "5".toList)]), ("b".toList, .arr [.str "s".toList, .str "$c".toList, .null])] false false Meta.nil [] =
    some [("a".toList, .obj [("$gt".toList, .num "0".toList)]), ("b".toList, .arr [.str "X".toList, .str "$c".toList, .null])] :=
  eq_some_of_beqKVs _ _ (by decide +kernel)

end Anonymongo.Src
