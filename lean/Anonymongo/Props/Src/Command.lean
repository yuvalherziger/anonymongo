/-
  Props/Src/Command.lean — the TRANSLATED `redactCommand` and `redactNamespace` (Generated/Src.lean) are the model's
  `Ctx.redactCommand` / `Ctx.redactNamespace` (Model/Line.lean) on command documents without duplicate keys at any level.
  In Go these functions update maps THROUGH POINTERS obtained from the enclosing map (`explain`'s operation, the elements of `ops` /
  `nsInfo`); the translator writes every such update back into the enclosing values, and the theorems show the result is the
  model's key-wise rebuild.  The statements with such an inner update are stated once, over an arbitrary procedure `R` with result
  function `r` (`blkInner`; `blkLoop` / `blkLoopG` over the elements of an array: what the loop leaves in the enclosing document is
  its LAST write-back, `loopCmd_eq`); `redactCommand_eq` and `redactNamespace_eq` are the two instances of one skeleton (`sub_docs`,
  `upd2_mapVals`), every fact about concrete key strings being in `cmd_keys` / `ns_keys`.
-/
import Anonymongo.Props.Src.Dispatch
import Anonymongo.Lemmas.NoDup
namespace Anonymongo.Src
open Anonymongo Anonymongo.Go

/-- apply `r` to a document, leave anything else alone -/
def objF (r : List (Str × J) → List (Str × J)) : J → J
  | .obj m => .obj (r m)
  | v => v

def arrF (r : List (Str × J) → List (Str × J)) : J → J
  | .arr xs => .arr (xs.map (objF r))
  | v => v

/-- `setKV_setKV` of Lemmas/Assoc, stated again under this namespace (where the short name resolves to this copy) -/
theorem setKV_setKV {α : Type} (k : Str) (a b : α) : ∀ (l : List (Str × α)), setKV k a (setKV k b l) = setKV k a l :=
  Anonymongo.setKV_setKV k a b

/-- a statement `if x, ok := cmd.Get(K); ok { if m, ok := x.(*OrderedMap); ok { R(m) } }` where `R` updates `m` in place -/
theorem blkInner (R : List (Str × J) → Option (List (Str × J))) (r : List (Str × J) → List (Str × J)) (K : Str) (cmd : List (Str × J))
    (hnd : nodupKeys (keysOf cmd) = true) (hR : ∀ m, lookup K cmd = some (.obj m) → R m = some (r m)) :
    (do
      let mut cmd := cmd
      let (explained, ok) := (objGet cmd K)
      if ok then
        let mut (inner, ok_2) := (asObj explained)
        if ok_2 then
          inner := (← R inner)
          cmd := setKV K (J.obj inner) cmd
      return cmd) = some (updAt K (objF r) cmd) := by
  rw [updAt_eq_get_set K _ cmd hnd]
  conv => lhs; zeta   -- (why: see `blkQ`, Props/Src/Dispatch)
  unfold objGet
  cases hl : lookup K cmd with
  | none => rfl
  | some v =>
    cases v with
    | obj m => exact congrArg (Option.bind · _) (hR m hl)
    | _ => exact congrArg some (setKV_lookup hl).symm

/-- what the element loop leaves in the enclosing document: the last write-back, if there was one -/
def loopCmd (r : List (Str × J) → List (Str × J)) (K : Str) : List J → List J → List (Str × J) → List (Str × J)
  | [], _, c => c
  | .obj m :: rest, pre, c => loopCmd r K rest (pre ++ [.obj (r m)]) (setKV K (.arr (pre ++ .obj (r m) :: rest)) c)
  | x :: rest, pre, c => loopCmd r K rest (pre ++ [x]) c

/-- `loopCmd` is `Set`ting `K` to the rewritten array when `c` holds the array under `K`: every write-back replaces the one before, and
    without any the array had no document to rewrite -/
theorem loopCmd_eq (r : List (Str × J) → List (Str × J)) (K : Str) : ∀ (rest pre : List J) (c : List (Str × J)),
    lookup K c = some (.arr (pre ++ rest)) → loopCmd r K rest pre c = setKV K (.arr (pre ++ rest.map (objF r))) c
  | [], _, _, h => (setKV_lookup h).symm
  | x :: rest, pre, c, h => by
    have ih := loopCmd_eq r K rest (pre ++ [objF r x])
    rw [← List.append_cons, ← List.append_cons] at ih
    cases x with
    | obj m => exact (ih _ (lookup_setKV_same K _ c)).trans (setKV_setKV K _ _ c)
    | _ => exact ih c h

/-- the element loop: every element that is a document goes through `R` and is written back -/
theorem opsLoop (R : List (Str × J) → Option (List (Str × J))) (r : List (Str × J) → List (Str × J)) (K : Str)
    (f : J × Nat → List (Str × J) × List J → Option (ForInStep (List (Str × J) × List J)))
    (hf : ∀ (x : J) (pre' rest' : List J) (c : List (Str × J)), (∀ m, x = .obj m → R m = some (r m)) →
      f (x, pre'.length) (c, pre' ++ x :: rest') = some (.yield
        (match x with
         | .obj m => (setKV K (.arr (pre' ++ .obj (r m) :: rest')) c, pre' ++ .obj (r m) :: rest')
         | _ => (c, pre' ++ x :: rest')))) :
    ∀ (rest pre : List J) (c : List (Str × J)), (∀ m, .obj m ∈ rest → R m = some (r m)) →
      forIn (rest.zipIdx pre.length) (c, pre ++ rest) f = some (loopCmd r K rest pre c, pre ++ rest.map (objF r)) := by
  intro rest
  induction rest with
  | nil => intro pre c _; rfl
  | cons x rest ih0 =>
    intro pre c hR
    rw [List.zipIdx_cons, forIn_cons_yield _ _ _ _ f (hf x pre rest c (fun m hm => hR m (hm ▸ List.mem_cons_self)))]
    have ih := fun c' => ih0 (pre ++ [objF r x]) c' (fun m' hm' => hR m' (List.mem_cons_of_mem _ hm'))
    rw [List.length_append, ← List.append_cons, ← List.append_cons] at ih
    -- document or not, the state after the step is the one `loopCmd` goes on with
    cases x <;> exact ih _

/-- `… if a, ok := x.([]any); ok { for _, e := range a { if m, ok := e.(*OrderedMap); ok { R(m) } } }`, `R` updating `m` in place -/
theorem blkLoop (R : List (Str × J) → Option (List (Str × J))) (r : List (Str × J) → List (Str × J)) (K : Str) (cmd : List (Str × J))
    (hnd : nodupKeys (keysOf cmd) = true)
    (hR : ∀ xs, lookup K cmd = some (.arr xs) → ∀ m, J.obj m ∈ xs → R m = some (r m)) :
    (do
      let mut cmd := cmd
      let (nsInfo, ok) := (objGet cmd K)
      if ok then
        let mut (nsInfoArr, ok_2) := (asArr nsInfo)
        if ok_2 then
          for (info, info_i_n) in (nsInfoArr).zipIdx do
            let info_i : Int := info_i_n
            let mut (infoMap, ok_3) := (asObj info)
            if ok_3 then
              infoMap := (← R infoMap)
              nsInfoArr := (← setIdx nsInfoArr info_i (J.obj infoMap))
              cmd := setKV K (J.arr nsInfoArr) cmd
      return cmd) = some (updAt K (arrF r) cmd) := by
  rw [updAt_eq_get_set K _ cmd hnd]
  conv => lhs; zeta   -- as in `blkQ`
  unfold objGet
  cases hl : lookup K cmd with
  | none => rfl
  | some v =>
    cases v with
    | arr xs =>
      refine (congrArg (Option.bind · _) (opsLoop R r K _ ?hf xs [] cmd (hR xs hl))).trans
        (congrArg some (loopCmd_eq r K xs [] cmd hl))
      intro x pre' rest' c hx
      cases x with
      | obj m => simp only [asObj, ↓reduceIte, hx m rfl, setIdx_mid, Option.pure_def, Option.bind_eq_bind, Option.bind_some]
      | _ => rfl
    | _ => exact congrArg some (setKV_lookup hl).symm

/-- the same, under a guard `if _, present := cmd.Get(KG); present { … }` -/
theorem blkLoopG (R : List (Str × J) → Option (List (Str × J))) (r : List (Str × J) → List (Str × J)) (KG K : Str) (cmd : List (Str × J))
    (hnd : nodupKeys (keysOf cmd) = true)
    (hR : ∀ xs, lookup K cmd = some (.arr xs) → ∀ m, J.obj m ∈ xs → R m = some (r m)) :
    (do
      let mut cmd := cmd
      let (_, isBulkWrite) := (objGet cmd KG)
      if isBulkWrite then
        let (ops, ok) := (objGet cmd K)
        if ok then
          let mut (opsArr, ok_2) := (asArr ops)
          if ok_2 then
            for (op, op_i_n) in (opsArr).zipIdx do
              let op_i : Int := op_i_n
              let mut (opMap, ok_3) := (asObj op)
              if ok_3 then
                opMap := (← R opMap)
                opsArr := (← setIdx opsArr op_i (J.obj opMap))
                cmd := setKV K (J.arr opsArr) cmd
      return cmd) = some (if (lookup KG cmd).isSome then updAt K (arrF r) cmd else cmd) := by
  conv => lhs; zeta   -- as in `blkQ`
  unfold objGet
  cases lookup KG cmd with
  | none => rfl
  | some w => exact blkLoop R r K cmd hnd hR

/-! `redactCommand` and `redactNamespace` have one skeleton: rewrite the whole document key-wise (`mapVals mv`), then by `r` the document
    under `K1`, then (under a guard `b`) the documents in the array under `K2`; `mv` leaves the values under `K1` and `K2` alone -/
section
variable (mv : Str → J → J) (K1 K2 : Str) (r : List (Str × J) → List (Str × J)) (cmd : List (Str × J)) (hnd : (J.obj cmd).nodup = true)
  (h1 : mv K1 = id) (h2 : mv K2 = id) (h12 : ¬ K2 = K1)
include hnd h1 h2 h12

/-- the documents rewritten one level down are sub-documents of the original: without duplicate keys, and not deeper -/
theorem sub_docs {R : List (Str × J) → Option (List (Str × J))}
    (hR : ∀ m, (J.obj m).nodup = true → depthKVs m ≤ depthKVs cmd → R m = some (r m)) :
    (∀ m, lookup K1 (mapVals mv cmd) = some (.obj m) → R m = some (r m)) ∧
      ∀ xs, lookup K2 (updAt K1 (objF r) (mapVals mv cmd)) = some (.arr xs) → ∀ m, J.obj m ∈ xs → R m = some (r m) := by
  refine ⟨fun m hm => ?_, fun xs hxs m hm => ?_⟩
  · rw [lookup_mapVals, h1, Option.map_id_apply] at hm
    exact hR m (J.nodup_of_lookup cmd hnd _ _ hm) (Nat.le_of_lt (depth_obj_lt m cmd _ hm))
  · rw [lookup_updAt, if_neg h12, lookup_mapVals, h2, Option.map_id_apply] at hxs
    exact hR m ((nodupList_iff xs).mp (J.nodup_of_lookup cmd hnd _ _ hxs) _ hm)
      (Nat.le_trans (Nat.le_of_succ_le (depth_mem_list xs _ hm)) (Nat.le_of_succ_le (depth_lookup cmd _ _ hxs)))

/-- the three rewrites as one key-wise map, in the model's words: `d` is the model's rewrite of a value that may be a document -/
theorem upd2_mapVals (d : J → J) (hd : ∀ x, x.nodup = true → objF r x = d x) (b : Bool) :
    (if b = true then updAt K2 (arrF r) (updAt K1 (objF r) (mapVals mv cmd)) else updAt K1 (objF r) (mapVals mv cmd)) =
      mapVals (fun k v => if k = K1 then d v else if (decide (k = K2) && b) = true then
        (match v with
         | .arr xs => .arr (xs.map d)
         | _ => v) else mv k v) cmd := by
  rw [ite_updAt, updAt_eq_mapVals, updAt_eq_mapVals, mapVals_mapVals, mapVals_mapVals]
  refine mapVals_congr_left fun ⟨k, v⟩ hp => ?_
  have hv : v.nodup = true := J.nodup_of_mem cmd hnd _ hp
  dsimp only
  by_cases e1 : k = K1
  · rw [if_pos e1, if_pos e1, if_neg (e1 ▸ Ne.symm h12), e1, h1]
    exact hd v hv
  · rw [if_neg e1, if_neg e1]
    by_cases e2 : k = K2
    · rw [if_pos e2, e2, h2, decide_eq_true rfl]
      cases b
      · rfl
      · cases v with
        | arr xs => exact congrArg J.arr (List.map_congr_left fun x hx => hd x ((nodupList_iff xs).mp hv x hx))
        | _ => rfl
    · rw [if_neg e2, decide_eq_false e2]
      rfl

end

/-- every fact about concrete key strings that `redactNamespace_eq` needs -/
theorem ns_keys : "explain" ∉ nsFieldLits ∧ "nsInfo" ∉ nsFieldLits ∧ ¬ s_nsInfo = s_explain := by
  unfold nsFieldLits
  refine ⟨?_, ?_, toList_ne ?_⟩ <;> simp only [List.mem_cons, List.not_mem_nil, String.reduceEq, or_self, not_false_eq_true, ne_eq]

theorem redactNamespace_eq (g : Globals) (T : Tables) (cmd : List (Str × J)) (hnd : (J.obj cmd).nodup = true)
    (hsf : T.searchedFields = [s_ns, s_aggregate, s_insert, s_find, s_update, s_collection, s_delete, s__24db, s_count, s_findAndModify,
      s_findOneAndDelete, s_replace, s_findOneAndReplace, s_findOneAndUpdate, s_getIndexes, s_countDocuments, s_distinct, s_mapReduce, s_findandmodify]) :
    redactNamespace g T cmd = some ((Ctx.mk T (absCfg g) false).redactNamespace cmd) := by
  have hR : ∀ m, (J.obj m).nodup = true → depthKVs m ≤ depthKVs cmd →
      redactNamespaceFields g T m = some ((Ctx.mk T (absCfg g) false).nsFields m) :=
    fun m hn _ => redactNamespaceFields_eq g T m (J.nodup_keys m hn) hsf
  have hs : (Ctx.mk T (absCfg g) false).T.searchedFields = nsFieldLits.map String.toList := hsf
  -- nothing below depends on what the context is
  generalize Ctx.mk T (absCfg g) false = c at hR hs ⊢
  -- (the literals are given explicitly: left to unification, the key strings would be evaluated to find them)
  have h1 := nsFieldVal_id c s_explain (hs ▸ toList_not_mem (a := "explain") ns_keys.1)
  have h2 := nsFieldVal_id c s_nsInfo (hs ▸ toList_not_mem (a := "nsInfo") ns_keys.2.1)
  have hk := keysOf_mapVals c.nsFieldVal cmd ▸ J.nodup_keys cmd hnd
  have ⟨h2', h3'⟩ := sub_docs c.nsFieldVal s_explain s_nsInfo _ cmd hnd h1 h2 ns_keys.2.2 hR
  -- statement by statement, then the three rewrites as the model's key-wise map
  have e1 : redactNamespace_s1 g T cmd = some (mapVals c.nsFieldVal cmd) := congrArg (Option.bind · some) (hR cmd hnd (Nat.le_refl _))
  have e2 : redactNamespace_s2 g T _ = _ := blkInner _ c.nsFields s_explain _ hk h2'
  have e3 : redactNamespace_s3 g T _ = _ := blkLoop _ c.nsFields s_nsInfo _ (nodupKeys_updAt _ _ hk) h3'
  rw [redactNamespace, e1, some_bind, e2, some_bind, e3]
  refine congrArg some ((upd2_mapVals c.nsFieldVal s_explain s_nsInfo _ cmd hnd h1 h2 ns_keys.2.2 c.nsDocOf
    (fun x _ => by cases x <;> rfl) true).trans ?_)
  simp only [Bool.and_true, decide_eq_true_eq]
  rfl

/-- every fact about concrete key strings that `redactCommand_eq` needs -/
theorem cmd_keys : "explain" ∉ opKeyLits ∧ "ops" ∉ opKeyLits ∧ ¬ s_ops = s_explain := by
  unfold opKeyLits
  refine ⟨?_, ?_, toList_ne ?_⟩ <;> simp only [List.mem_cons, List.not_mem_nil, String.reduceEq, or_self, not_false_eq_true, ne_eq]

theorem cmdVal_id (c : Ctx) (b : Bool) (a : String) (h : a ∉ opKeyLits) : c.cmdVal b a.toList = id := by
  have hk : a.toList ∉ keysOf (opRules c b) := keysOf_opRules c b ▸ toList_not_mem h
  exact funext fun v => (ruleOf_opRules c b _ v).symm.trans (congrArg (·.getD id v) (lookup_eq_none_iff.mpr hk))

/-- the model rebuilds an operation document one level down by `Set`, which changes nothing: its keys are distinct -/
theorem objF_opDoc (c : Ctx) (v : J) (hv : v.nodup = true) : objF c.redactOperation v = c.opDoc v := by
  cases v with
  | obj op => exact congrArg J.obj (fromPairs_of_nodup _ ((keysOf_mapVals _ op).symm ▸ J.nodup_keys op hv)).symm
  | _ => rfl

/-- **`redactCommand` is the model's `redactCommand`**: the operation itself, the operation wrapped by `explain`, the operations
    listed by `bulkWrite` under `ops` - for every command document without duplicate keys at any level -/
theorem redactCommand_eq (g : Globals) (T : Tables) (env : Env g T) (fuel : Nat) (e : Bool) (cmd : List (Str × J))
    (hnd : (J.obj cmd).nodup = true) (hall : 2 * depthKVs cmd < fuel) :
    redactCommand g T fuel cmd e = some ((Ctx.mk T (absCfg g) e).redactCommand cmd) := by
  have hR : ∀ m, (J.obj m).nodup = true → depthKVs m ≤ depthKVs cmd →
      redactOperation g T fuel m e = some ((Ctx.mk T (absCfg g) e).redactOperation m) :=
    fun m hn hd => redactOperation_eq g T env fuel e m (J.nodup_keys m hn) (Nat.lt_of_le_of_lt (Nat.mul_le_mul_left 2 hd) hall)
  generalize Ctx.mk T (absCfg g) e = c at hR ⊢
  have h1 := cmdVal_id c (lookup sInsert cmd).isSome "explain" cmd_keys.1
  have h2 := cmdVal_id c (lookup sInsert cmd).isSome "ops" cmd_keys.2.1
  have hk := keysOf_mapVals (c.cmdVal (lookup sInsert cmd).isSome) cmd ▸ J.nodup_keys cmd hnd
  have ⟨h3', h4'⟩ := sub_docs _ s_explain s_ops _ cmd hnd h1 h2 cmd_keys.2.2 hR
  have e2 : redactCommand_s2 g T fuel cmd e = some (mapVals _ cmd) := congrArg (Option.bind · some) (hR cmd hnd (Nat.le_refl _))
  have e3 : redactCommand_s3 g T fuel _ e = _ := blkInner _ c.redactOperation s_explain _ hk h3'
  -- (the translated function is given explicitly: unification finds it only after comparing the loop bodies in vain)
  have e4 : redactCommand_s4 g T fuel _ e = _ :=
    blkLoopG (redactOperation g T fuel · e) c.redactOperation s_bulkWrite s_ops _ (nodupKeys_updAt _ _ hk) h4'
  rw [redactCommand, show redactCommand_s1 g T fuel cmd e = some cmd from rfl, some_bind, e2, some_bind, e3, some_bind, e4]
  refine congrArg some ((upd2_mapVals _ s_explain s_ops _ cmd hnd h1 h2 cmd_keys.2.2 c.opDoc (objF_opDoc c) _).trans ?_)
  -- an update keeps the keys, hence whether there is a `bulkWrite` key
  rw [isSome_lookup_of_keysOf s_bulkWrite _ cmd ((keysOf_updAt _ _ _).trans (keysOf_mapVals _ cmd))]
  rfl

end Anonymongo.Src
