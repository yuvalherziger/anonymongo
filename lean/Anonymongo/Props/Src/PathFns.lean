/-
  Props/Src/PathFns.lean — `withinSearchUserDocument`, `RemoveElementAfter`, `RemoveElementsBeforeIncluding` as translated from the
  source are the model's functions.  The translated loop body is characterised once by a few equations (one per exit); the induction
  over the list then runs over an opaque body `F` and continuation `K` with those equations as hypotheses.
-/
import Anonymongo.Props.Src.Base
namespace Anonymongo.Src
open Anonymongo Anonymongo.Go

theorem wsud_nil : Anonymongo.withinSearchUserDocument [] = false := by rfl
theorem wsud_one (a : Str) : Anonymongo.withinSearchUserDocument [a] = false := by rfl
theorem wsud_two (a b : Str) : Anonymongo.withinSearchUserDocument [a, b] = false := by rfl

/-- a loop over the indices whose body `F` stops at the first `moreLikeThis`, `like` pair that has a key after it computes the
    model's function -/
theorem wsud_loop (kp : List Str) (F : Nat → Option Bool × Unit → Option (ForInStep (Option Bool × Unit)))
    (K : Option Bool × Unit → Option Bool) (K0 : K (none, ()) = some false) (K1 : K (some true, ()) = some true)
    (F0 : ∀ i : Nat, kp.length ≤ i + 2 → F i (none, ()) = some (.done (none, ())))
    (F1 : ∀ (i : Nat) (a b : Str), i + 2 < kp.length → idx kp i = some a → idx kp ((i : Int) + 1) = some b →
      F i (none, ()) = some (if (a = sMoreLikeThis && b = sLike) = true then .done (some true, ()) else .yield (none, ()))) :
    ∀ (rest pre : List Str), pre ++ rest = kp →
      (forIn (List.range' pre.length rest.length) (none, ()) F) >>= K = some (Anonymongo.withinSearchUserDocument rest) := by
  intro rest
  induction rest with
  | nil => exact fun _ _ => K0
  | cons a r ih =>
    intro pre h
    rw [List.length_cons, List.range'_succ, List.forIn_cons]
    match r, ih with
    | [], _ =>
      rw [F0 _ (by rw [← h, List.length_append]; exact Nat.add_le_add_left (Nat.le_succ 1) _)]
      exact K0
    | [b], _ =>
      rw [F0 _ (by rw [← h, List.length_append]; exact Nat.le_refl _)]
      exact K0
    | b :: c :: r, ih =>
      have hk : pre.length + 2 < kp.length := by
        rw [← h, List.length_append]
        exact Nat.add_lt_add_left (Nat.succ_lt_succ (Nat.succ_lt_succ (Nat.zero_lt_succ _))) _
      have e0 : idx kp (pre.length : Int) = some a := by rw [← h]; exact idx_append_length _ _ _
      have e1 : idx kp ((pre.length : Int) + 1) = some b := by rw [← h]; exact idx_append_length_succ _ _ _ _
      have ih := ih (pre ++ [a]) (by rw [← h, List.append_assoc]; rfl)
      rw [List.length_append] at ih
      rw [F1 _ a b hk e0 e1, Anonymongo.withinSearchUserDocument]
      cases (a = sMoreLikeThis && b = sLike)
      · exact ih
      · exact K1

theorem withinSearchUserDocument_eq (g : Globals) (T : Tables) (kp : List Str) :
    withinSearchUserDocument g T kp = some (Anonymongo.withinSearchUserDocument kp) := by
  unfold withinSearchUserDocument
  rw [Nat.sub_zero, len, Int.toNat_natCast]
  refine wsud_loop kp _ _ rfl rfl ?_ ?_ kp [] rfl
  · intro i hi
    have hi : ¬ ((i : Int) + 2 < (kp.length : Int)) := by omega
    simp only [hi, decide_false, Bool.not_false, if_true, Option.pure_def]
  · intro i a b hi e0 e1
    have hi : (i : Int) + 2 < (kp.length : Int) := by omega
    have s_mlt : s_moreLikeThis = sMoreLikeThis := rfl
    have s_lk : s_like = sLike := rfl
    simp only [hi, e0, e1, decide_true, Bool.not_true, Bool.false_eq_true, if_false, Option.pure_def, Option.bind_eq_bind,
      Option.bind_some, s_mlt, s_lk, Bool.beq_eq_decide_eq]
    cases decide (a = sMoreLikeThis) <;> cases decide (b = sLike) <;> rfl

/-- a loop over `slice.zipIdx` whose body `F` returns `G i` at the first `marker` that is not the last element and falls through to
    `D` otherwise computes any `M` that unfolds the same way; both `RemoveElement…` functions are instances -/
theorem marker_loop (slice : List Str) (marker : Str) (D : List Str) (G : Nat → Option (List Str))
    (M : List Str → List Str → List Str)
    (F : Str × Nat → Option (List Str) × Unit → Option (ForInStep (Option (List Str) × Unit)))
    (K : Option (List Str) × Unit → Option (List Str))
    (K0 : K (none, ()) = some D) (K1 : ∀ l, K (some l, ()) = some l)
    (F0 : ∀ (x : Str) (i : Nat), (x == marker && decide ((i : Int) + 1 < len slice)) = false → F (x, i) (none, ()) = some (.yield (none, ())))
    (F1 : ∀ (x : Str) (i : Nat), (x == marker && decide ((i : Int) + 1 < len slice)) = true →
      F (x, i) (none, ()) = (G i).bind fun l => some (.done (some l, ())))
    (M0 : ∀ pre, pre ++ [] = slice → M pre [] = D)
    (M1 : ∀ pre x, pre ++ [x] = slice → M pre [x] = D)
    (Mn : ∀ pre x y ys, x ≠ marker → M pre (x :: y :: ys) = M (pre ++ [x]) (y :: ys))
    (My : ∀ pre y ys, pre ++ marker :: y :: ys = slice → G pre.length = some (M pre (marker :: y :: ys))) :
    ∀ rest pre, pre ++ rest = slice → (forIn (rest.zipIdx pre.length) (none, ()) F) >>= K = some (M pre rest) := by
  intro rest
  induction rest with
  | nil => exact fun pre h => K0.trans (congrArg some (M0 pre h).symm)
  | cons x r ih =>
    intro pre h
    rw [List.zipIdx_cons, List.forIn_cons]
    cases r with
    | nil =>
      have hlt : ¬ ((pre.length : Int) + 1 < len slice) := by
        rw [← h, len, List.length_append]
        exact fun h' => Nat.lt_irrefl _ (Int.ofNat_lt.1 h')
      have hc : (x == marker && decide ((pre.length : Int) + 1 < len slice)) = false := by rw [decide_eq_false hlt, Bool.and_false]
      rw [List.zipIdx_nil, F0 _ _ hc]
      exact K0.trans (congrArg some (M1 pre x h).symm)
    | cons y ys =>
      have hlt : (pre.length : Int) + 1 < len slice := by
        rw [← h, len, List.length_append]
        exact Int.ofNat_lt.2 (Nat.add_lt_add_left (Nat.succ_lt_succ (Nat.zero_lt_succ _)) _)
      by_cases hx : x = marker
      · subst hx
        have hc : (x == x && decide ((pre.length : Int) + 1 < len slice)) = true := by rw [beq_self_eq_true, decide_eq_true hlt]; rfl
        rw [F1 _ _ hc, My pre y ys h]
        exact K1 _
      · have hc : (x == marker && decide ((pre.length : Int) + 1 < len slice)) = false := by rw [beq_false_of_ne hx]; rfl
        rw [F0 _ _ hc, Mn pre x y ys hx]
        have ih := ih (pre ++ [x]) (by rw [← h, List.append_assoc]; rfl)
        rw [List.length_append] at ih
        exact ih

theorem RemoveElementsBeforeIncluding_eq (g : Globals) (T : Tables) (slice : List Str) (marker : Str) :
    RemoveElementsBeforeIncluding g T slice marker = some (removeElementsBeforeIncluding marker slice) := by
  unfold RemoveElementsBeforeIncluding
  refine marker_loop slice marker [] (fun i => sliceFrom slice ((i : Int) + 1)) (fun _ rest => removeElementsBeforeIncluding marker rest)
    _ _ rfl (fun _ => rfl) ?_ ?_ (fun _ _ => rfl) (fun _ _ _ => rfl)
    (fun _ x y ys hx => by rw [removeElementsBeforeIncluding, if_neg hx])
    (fun pre y ys h => by rw [← h, removeElementsBeforeIncluding, if_pos rfl]; exact sliceFrom_app1 _ _ _) slice [] rfl
  · intro x i hc
    simp only [hc, Bool.false_eq_true, if_false]
    rfl
  · intro x i hc
    simp only [hc, if_true]
    rfl

theorem RemoveElementAfter_eq (g : Globals) (T : Tables) (slice : List Str) (marker : Str) :
    RemoveElementAfter g T slice marker = some (removeElementAfter marker slice) := by
  unfold RemoveElementAfter
  refine marker_loop slice marker slice
    (fun i => (sliceTo slice ((i : Int) + 1)).bind fun a => (sliceFrom slice ((i : Int) + 2)).bind fun b => some ([] ++ a ++ b))
    (fun pre rest => pre ++ removeElementAfter marker rest) _ _ rfl (fun _ => rfl) ?_ ?_ (fun _ h => h) (fun _ _ h => h)
    (fun pre x y ys hx => by rw [removeElementAfter, if_neg hx, List.append_assoc]; rfl)
    (fun pre y ys h => by
      rw [← h, sliceTo_app1, sliceFrom_app2, removeElementAfter, if_pos rfl]
      simp only [Option.bind_some, List.nil_append, List.append_assoc, List.cons_append]) slice [] rfl
  · intro x i hc
    simp only [hc, Bool.false_eq_true, if_false]
    rfl
  · intro x i hc
    simp only [hc, if_true, Option.bind_eq_bind, Option.pure_def, Option.bind_assoc, Option.bind_some]

end Anonymongo.Src
