/-
  Props/Src/ParseDepth.lean — what the model's parser returns is nested no more deeply than its input is long (every level of nesting
  costs the parser one unit of its fuel, and `parseObj` starts with `length + 1`).  With it the fuel hypothesis of the source-level
  theorems becomes a bound in the LENGTH OF THE LINE: `C07_src_len`.
-/
import Anonymongo.Props.Src.EndToEnd
namespace Anonymongo.Src
open Anonymongo Anonymongo.Go

theorem depthKVs_setKV (k : Str) (v : J) : ∀ l : List (Str × J), depthKVs (setKV k v l) ≤ max (depth v) (depthKVs l)
  | [] => by simp [setKV, depthKVs]
  | (k', v') :: rest => by
    simp only [setKV]
    split
    · simp only [depthKVs]; omega
    · have := depthKVs_setKV k v rest
      simp only [depthKVs]; omega

/-- the depth bound a parse item satisfies under fuel `f` (the invariant of `Parses.depthLe`) -/
def Item.DepthLe (f : Nat) : Item → Prop
  | .val v => depth v ≤ f
  | .mems acc kvs => depthKVs kvs ≤ max (depthKVs acc) (f - 1)
  | .elems xs => depthList xs ≤ f - 1

theorem Parses.depthLe {f x i r} (h : Parses f x i r) : Item.DepthLe f i := by
  induction h with
  | objNil | arrNil => simp [Item.DepthLe, depth, depthKVs, depthList]
  | obj _ _ _ ih => simp only [Item.DepthLe, depth, depthKVs] at ih ⊢; omega
  | arr _ _ _ ih => simp only [Item.DepthLe, depth] at ih ⊢; omega
  | str | num => exact Nat.zero_le _
  | lit hm =>
    simp only [litTable, List.mem_cons, List.mem_nil_iff, or_false, Prod.mk.injEq] at hm
    rcases hm with ⟨_, _, rfl⟩ | ⟨_, _, rfl⟩ | ⟨_, _, rfl⟩ <;> exact Nat.zero_le _
  | memLast _ _ _ _ _ ihv =>
    simp only [Item.DepthLe] at ihv ⊢
    exact Nat.le_trans (depthKVs_setKV _ _ _) (by omega)
  | memMore _ _ _ _ _ _ _ ihv ihm =>
    simp only [Item.DepthLe] at ihv ihm ⊢
    exact Nat.le_trans ihm (Nat.max_le.mpr ⟨Nat.le_trans (depthKVs_setKV _ _ _) (by omega), by omega⟩)
  | elemLast _ _ ihv => simp only [Item.DepthLe, depthList] at ihv ⊢; omega
  | elemMore _ _ _ _ ihv ihe => simp only [Item.DepthLe, depthList] at ihv ihe ⊢; omega

theorem parseMembers_depth : ∀ (fuel : Nat) (bs : Bytes) (acc kvs : List (Str × J)) (r : Bytes),
    parseMembers fuel bs acc = some (kvs, r) → depthKVs kvs ≤ max (depthKVs acc) (fuel - 1) :=
  fun fuel bs acc kvs r h => Parses.depthLe (parseMembers_sound fuel bs acc kvs r h)
theorem parseElems_depth : ∀ (fuel : Nat) (bs : Bytes) (xs : List J) (r : Bytes),
    parseElems fuel bs = some (xs, r) → depthList xs ≤ fuel - 1 :=
  fun fuel bs xs r h => Parses.depthLe (parseElems_sound fuel bs xs r h)

/-- an accepted line is nested no more deeply than it is long -/
theorem parseObj_depth (bs : Bytes) (E0 : List (Str × J)) (h : parseObj bs = some E0) : depthKVs E0 ≤ bs.length := by
  obtain ⟨_, hp, _⟩ := parseObj_some h
  have := Parses.depthLe hp
  simp only [Item.DepthLe, depth] at this; omega

variable (g : Globals) (fuel : Nat)

/-- **C07 at source level, fuel bounded by the length of the line**: with the model's parser as the reader and fuel beyond
    twice the line's length in bytes, the translated `RedactMongoLog` returns on EVERY line, under every setting of the options —
    the reader's error and nothing else, or an entry and no error.  (Go has no fuel: this says its recursion is bounded by the
    nesting of the line, which is bounded by its length.) -/
theorem C07_src_len (plan : Str → Str → Str) (cal : Callees g plan) (hreader : g.UnmarshalOrdered = parseObj) (line : Str)
    (hfuel : 2 * (utf8 line).length < fuel) :
    RedactMongoLog g Generated.tables fuel line = some ([], true) ∨ ∃ out, RedactMongoLog g Generated.tables fuel line = some (out, false) := by
  rcases C07_src g fuel plan cal hreader line with ⟨_, h⟩ | ⟨E0, hp, h⟩
  · exact .inl h
  · have := parseObj_depth _ E0 hp
    exact .inr (h (by omega))

end Anonymongo.Src
