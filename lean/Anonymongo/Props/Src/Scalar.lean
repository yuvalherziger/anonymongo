/-
  Props/Src/Scalar.lean — the TRANSLATED `redactScalarValue` (Generated/Src.lean) is the model's `redactScalar`, for every non-empty
  key path (all call sites pass one), fuel larger than its length, every value and flag setting, on tables whose e-mail placeholder is
  the literal of the source (`Gen_emailPH`): the Go function returns - no index out of range, no failed assertion - what the model says.
  The leaf theorems of the properties (class placeholders, kept leaves, fail-closed encryption, the selective decision) are
  statements about `redactScalar`; through this theorem they are statements about the source text of `redactScalarValue`,
  `redactString`, `reMatchesAnyKeyInPath`, `getOp`, `traverseMapPath`, `IsEmail` as it is on this run.
-/
import Anonymongo.Props.Src.Path
import Anonymongo.Props.Src.Leaf
import Anonymongo.Generated.Tables
import Anonymongo.Lemmas.JEq
namespace Anonymongo.Src
open Anonymongo Anonymongo.Go

theorem grandParent_idx (kp : List Str) (h : 1 < kp.length) : idx kp (len kp - 2) = some (grandParent kp) := by
  obtain ⟨d, b, rfl⟩ : ∃ d b, kp = d ++ [b] :=
    ⟨_, _, (List.dropLast_concat_getLast (List.ne_nil_of_length_pos (Nat.lt_trans Nat.zero_lt_one h))).symm⟩
  rw [List.length_append, List.length_singleton] at h
  obtain ⟨pre, a, rfl⟩ : ∃ pre a, d = pre ++ [a] :=
    ⟨_, _, (List.dropLast_concat_getLast (List.ne_nil_of_length_pos (Nat.lt_of_succ_lt_succ h))).symm⟩
  have e : len (pre ++ [a] ++ [b]) - 2 = (pre.length : Int) := by simp [len]
  rw [e, List.append_assoc, List.singleton_append, idx_append_length]
  simp [grandParent]

theorem grandParent_short (kp : List Str) (h : ¬ 1 < kp.length) : grandParent kp = [] := by
  cases kp with
  | nil => rfl
  | cons x xs =>
    cases xs with
    | nil => rfl
    | cons y ys => simp at h

theorem s_date_eq : s__24date = sDate := rfl
theorem s_oid_eq : s__24oid = sOid := rfl
theorem s_base64_eq : s_base64 = sBase64 := rfl
theorem s_subType_eq : s_subType = sSubType := rfl
theorem s_binary_eq : s__24binary = sBinary := rfl

/-- `dk1` - `dk3` are the facts about key strings `redactScalarValue_eq` needs (for a value that is not a string the model tests
    `subType` first, the source last); `dk4` - `dk6` are cited by `close_keys` only -/
theorem dk1 : ¬ (sSubType = sDate) := toList_ne (by simp only [String.reduceNe])
theorem dk2 : ¬ (sSubType = sOid) := toList_ne (by simp only [String.reduceNe])
theorem dk3 : ¬ (sSubType = sBase64) := toList_ne (by simp only [String.reduceNe])
theorem dk4 : ¬ (sBase64 = sDate) := toList_ne (by simp only [String.reduceNe])
theorem dk5 : ¬ (sBase64 = sOid) := toList_ne (by simp only [String.reduceNe])
theorem dk6 : ¬ (sOid = sDate) := toList_ne (by simp only [String.reduceNe])

/-- for a goal that is settled by which of `$date`, `$oid`, `base64`, `subType` the parent key `pk` is and whether the
    grandparent key `gp` is `$binary`: all 32 combinations of the five tests, each by `simp_all` (then, where needed, `repeat' split` or
    `subst_vars`).  No proof invokes it. -/
macro "close_keys" pk:ident gp:ident : tactic => `(tactic|
  (by_cases h1 : $pk = sDate <;> by_cases h2 : $pk = sOid <;> by_cases h3 : $pk = sBase64 <;> by_cases h4 : $pk = sSubType <;>
    by_cases h5 : $gp = sBinary <;>
    first
    | (simp_all [dk1, dk2, dk3, dk4, dk5, dk6]; done)
    | (simp_all [dk1, dk2, dk3, dk4, dk5, dk6]; (repeat' split) <;> first | rfl | simp_all)
    | (subst_vars; simp_all [dk1, dk2, dk3, dk4, dk5, dk6]; done)
    | (subst_vars; simp_all [dk1, dk2, dk3, dk4, dk5, dk6]; (repeat' split) <;> first | rfl | simp_all)))

/-- the part of the model's `redactScalar` that looks at the last two keys of the path -/
def keyed (T : Tables) (cfg : Cfg) (pk gp : Str) (v : J) : J :=
  match v with
  | .str s =>
    if pk = sDate then .str (Anonymongo.redactString cfg s T.isoDate)
    else if pk = sOid then .str (Anonymongo.redactString cfg s T.objectId)
    else if pk = sBase64 && gp = sBinary then .str (Anonymongo.redactString cfg s T.uuid)
    else if pk = sSubType && gp = sBinary then v
    else redactByKind T cfg v
  | _ => if pk = sSubType && gp = sBinary then v else redactByKind T cfg v

/-- `keyed` in the source's terms: the string test is `asStr` -/
theorem keyed_asStr (T : Tables) (cfg : Cfg) (pk gp : Str) (v : J) : keyed T cfg pk gp v =
    if (asStr v).2 = true then
      if pk = sDate then .str (Anonymongo.redactString cfg (asStr v).1 T.isoDate)
      else if pk = sOid then .str (Anonymongo.redactString cfg (asStr v).1 T.objectId)
      else if pk = sBase64 && gp = sBinary then .str (Anonymongo.redactString cfg (asStr v).1 T.uuid)
      else if pk = sSubType && gp = sBinary then v
      else redactByKind T cfg v
    else if pk = sSubType && gp = sBinary then v else redactByKind T cfg v := by
  cases v <;> rfl

theorem redactScalar_keyed (T : Tables) (cfg : Cfg) (kp : List Str) (v : J) (S sel : Bool) :
    redactScalar T cfg kp v S sel =
      if isTy? (Anonymongo.getOp T kp S) .Exempt then v
      else if !S && cfg.re.isSome && !sel && !reMatchesAny cfg.re kp then v
      else keyed T cfg (lastD kp) (grandParent kp) v := rfl

theorem redactScalarValue_eq (g : Globals) (T : Tables) (fuel : Nat) (kp : List Str) (v : J) (S sel : Bool)
    (hne : kp ≠ []) (hf : kp.length < fuel) (hph : T.emailPH = s_redacted_40redacted_2ecom) :
    redactScalarValue g T fuel kp v S sel = some (redactScalar T (absCfg g) kp v S sel) := by
  unfold redactScalarValue
  -- The early `return`s make the `do` block a nest of join points (`have __do_jp := fun … => …`).  `extract_lets` names them (and the
  -- initial `""`), so that each is characterised once, innermost first, instead of being copied into every branch that reaches it.
  extract_lets e kind tail pre
  -- the `switch v.(type)` at the end
  have hkind : kind () = some (redactByKind T (absCfg g) v) := by
    cases v <;> simp only [kind, redactByKind, assertStr, IsEmail_eq, redactString_eq, Option.bind_eq_bind, Option.bind_some,
      Option.pure_def, ← hph, apply_ite some]
    all_goals rfl
  -- in front of it the tests on the last two keys, behind the regular-expression test
  have htail : ∀ pk0 gp, tail () pk0 gp =
      some (if (!S && (absCfg g).re.isSome && !sel && !reMatchesAny (absCfg g).re kp) = true then v
        else keyed T (absCfg g) (lastD kp) gp v) := by
    intro pk0 gp
    simp only [tail, reMatchesAnyKeyInPath_eq, redactString_eq, Option.bind_eq_bind, Option.bind_some, Option.pure_def, goAnd_some,
      idx_last kp hne, hkind, beq_iff_eq, Option.not_isNone]
    rw [apply_ite some]
    refine ite_congr rfl (fun _ => rfl) (fun _ => ?_)
    generalize lastD kp = pk
    simp only [s_date_eq, s_oid_eq, s_base64_eq, s_subType_eq, s_binary_eq]
    -- a string or not (the six constructors of `J` are not told apart), then the two tests that are not in the same place on both sides
    rw [keyed_asStr]
    cases asStr v with
    | mk str ok =>
      cases ok <;> by_cases hb : gp = sBinary <;> by_cases h4 : pk = sSubType <;>
        simp only [hb, h4, dk1, dk2, dk3, beq_iff_eq, Bool.true_and, Bool.false_and, Bool.and_eq_true, decide_eq_true_eq,
          apply_ite some, if_true, if_false, and_true, and_false, ite_self, Bool.false_eq_true]
  -- in front of that the operator lookup
  have hpre : ∀ gp, pre () gp = some (if isTy? (Anonymongo.getOp T kp S) .Exempt = true then v
      else if (!S && (absCfg g).re.isSome && !sel && !reMatchesAny (absCfg g).re kp) = true then v
        else keyed T (absCfg g) (lastD kp) gp v) := by
    intro gp
    simp only [pre, getOp_eq g T fuel kp S hne hf, idx_last kp hne, htail, Option.bind_eq_bind, Option.bind_some, Option.pure_def]
    simp only [ite_pairOf_isTy, apply_ite some]
  -- the grandparent key: the second-to-last element, or "" for a one-element path
  have hlen0 : (len kp == (0 : Int)) = false := by
    cases kp with
    | nil => exact absurd rfl hne
    | cons x xs => simp [len]; omega
  rw [hlen0, if_neg Bool.false_ne_true, redactScalar_keyed]
  by_cases hgp : 1 < kp.length
  · have hd : decide (len kp > 1) = true := by simp [len]; omega
    rw [hd, if_pos rfl, grandParent_idx kp hgp]
    exact hpre _
  · have hd : decide (len kp > 1) = false := by simp [len]; omega
    rw [hd, if_neg Bool.false_ne_true, grandParent_short kp hgp]
    exact hpre _

/-- the e-mail placeholder of the regenerated constants is the literal `redactScalarValue` uses -/
theorem Gen_emailPH : Generated.tables.emailPH = s_redacted_40redacted_2ecom := rfl

theorem redactScalarValue_eq_gen (g : Globals) (fuel : Nat) (kp : List Str) (v : J) (S sel : Bool)
    (hne : kp ≠ []) (hf : kp.length < fuel) :
    redactScalarValue g Generated.tables fuel kp v S sel = some (redactScalar Generated.tables (absCfg g) kp v S sel) :=
  redactScalarValue_eq g Generated.tables fuel kp v S sel hne hf Gen_emailPH

/-- non-vacuity: a concrete call evaluates, in the translated function itself, to the class placeholder -/
example : redactScalarValue { Globals.inert with redactedString := "X".toList } Generated.tables 5
    ["a".toList, "$oid".toList] (.str "507f1f77bcf86cd799439011".toList) false false = some (.str Generated.tables.objectId) :=
  eq_some_of_beq _ _ (by decide +kernel)

end Anonymongo.Src
