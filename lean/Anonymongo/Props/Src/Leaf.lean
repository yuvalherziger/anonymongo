/-
  Props/Src/Leaf.lean — `reMatchesAnyKeyInPath`, `redactString`, `IsEmail` as translated from the source are the model's functions.
-/
import Anonymongo.Props.Src.Base
namespace Anonymongo.Src
open Anonymongo Anonymongo.Go

theorem reMatchesAnyKeyInPath_eq (g : Globals) (T : Tables) (kp : List Str) (re : Option (Str → Bool)) :
    reMatchesAnyKeyInPath g T kp re = some (reMatchesAny re kp) := by
  unfold reMatchesAnyKeyInPath reMatchesAny
  cases re with
  | none => simp
  | some m =>
    simp [reMatch]
    induction kp with
    | nil => simp
    | cons k ks ih => cases h : m k <;> simp [h, ih]

theorem redactString_eq (g : Globals) (T : Tables) (s ph : Str) :
    redactString g T s ph = some (Anonymongo.redactString (absCfg g) s ph) := by
  unfold redactString Anonymongo.redactString absCfg
  cases h1 : g.shouldEncrypt <;> cases h2 : g.encryptionKey <;> simp [errPair]
  cases h3 : g.Encrypt (utf8 s) (some _) <;> simp

theorem IsEmail_eq (g : Globals) (T : Tables) (s : Str) : IsEmail g T s = some (isEmail s) := by
  unfold IsEmail isEmail
  simp only [strLen, reMatch]
  -- the length guard may be spelled `<` / `>` or negated `>=` / `<=`; the last alternative covers every spelling, the first two avoid
  -- unused simp arguments on the known ones
  have p1 : ((utf8Len s : Int) < 3) ↔ ¬ (3 ≤ utf8Len s) := by omega
  have p2 : ((utf8Len s : Int) > 254) ↔ ¬ (utf8Len s ≤ 254) := by omega
  have p3 : ((utf8Len s : Int) ≥ 3) ↔ (3 ≤ utf8Len s) := by omega
  have p4 : ((utf8Len s : Int) ≤ 254) ↔ (utf8Len s ≤ 254) := by omega
  by_cases a : 3 ≤ utf8Len s <;> by_cases b : utf8Len s ≤ 254 <;> first | (simp [p1, p2, a, b]; done) | (simp [p3, p4, a, b]; done) | simp [p1, p2, p3, p4, a, b]

end Anonymongo.Src
