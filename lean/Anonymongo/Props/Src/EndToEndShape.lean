/-
  Props/Src/EndToEndShape.lean — C03 (shape) and C19 (idempotence) restated about the TRANSLATED `RedactMongoLog`; see EndToEnd.lean.
  Part of the THOROUGH tier of C03 and C19 only: the quick tier of these two properties does not depend on the refinement proofs of
  the dispatch functions (Props/Src/Dispatch, Command, Line), so that a rewrite of those functions leaves it alone.
-/
import Anonymongo.Props.C03
import Anonymongo.Props.C19
import Anonymongo.Props.C03b
import Anonymongo.Props.Src.ParseDepth
namespace Anonymongo.Src
open Anonymongo Anonymongo.Go

variable (g : Globals) (fuel : Nat)

/-- **C03 at source level**: without `--redactFieldNames` prefixes the entry the translated `RedactMongoLog` returns has the
    shape (keys, order, nesting, array lengths, scalar JSON types) of the entry the reader produced -/
theorem C03_src (plan : Str → Str → Str) (cal : Callees g plan) (heager : g.eagerRedactionPaths = [])
    (line : Str) (E0 : List (Str × J)) (hparse : g.UnmarshalOrdered (utf8 line) = some E0)
    (hnd : (J.obj E0).nodup = true) (hfuel : 2 * depthKVs E0 < fuel) :
    ∃ out, RedactMongoLog g Generated.tables fuel line = some (out, false) ∧ shapeEq (.obj E0) (.obj out) = true := by
  refine ⟨_, RedactMongoLog_eq_gen g fuel cal.hP plan cal.hplan line E0 hparse hnd hfuel, ?_⟩
  rw [heager]
  exact C03_line Generated.tables (absCfg g) plan E0 hnd

/-- **C19 at source level**: in placeholder mode with the value flags only, running the translated `RedactMongoLog` on a line
    that reads back as its own output returns that output again -/
theorem C19_src (plan : Str → Str → Str) (cal : Callees g plan) (heager : g.eagerRedactionPaths = [])
    (hplain : g.shouldEncrypt = false) (hfull : g.redactedFieldsRegexp = none) (hns : g.redactNamespaces = false)
    (hrepl : isEmail g.redactedString = false)
    (line : Str) (E0 : List (Str × J)) (hparse : g.UnmarshalOrdered (utf8 line) = some E0)
    (hnd : (J.obj E0).nodup = true) (hfuel : 2 * depthKVs E0 < fuel) :
    ∃ out, RedactMongoLog g Generated.tables fuel line = some (out, false) ∧
      ∀ line2 fuel2, g.UnmarshalOrdered (utf8 line2) = some out → 2 * depthKVs out < fuel2 →
        RedactMongoLog g Generated.tables fuel2 line2 = some (out, false) := by
  refine ⟨_, RedactMongoLog_eq_gen g fuel cal.hP plan cal.hplan line E0 hparse hnd hfuel, ?_⟩
  intro line2 fuel2 hp2 hf2
  have hshape := C03_line Generated.tables (absCfg g) plan E0 hnd
  rw [heager] at hp2 hf2 ⊢
  have hnd2 : (J.obj (redactLine Generated.tables (absCfg g) [] plan E0)).nodup = true :=
    nodup_of_shapeEq _ _ hshape hnd
  have h2 := RedactMongoLog_eq_gen g fuel2 cal.hP plan cal.hplan line2 _ hp2 hnd2 hf2
  rw [heager] at h2
  rw [h2]
  rw [C19_line Generated.tables (absCfg g) (absCfg_enc_none g hplain) hfull hns hrepl C19_constants.1 plan E0 hnd]

/-- the translated `RedactMongoLog` on a line the model's parser accepts (an entry without duplicate sibling keys, nested less deeply than
    the line is long) -/
theorem run_of_parse (plan : Str → Str → Str) (cal : Callees g plan) (hreader : g.UnmarshalOrdered = parseObj)
    (heager : g.eagerRedactionPaths = []) (line : Str) (E0 : List (Str × J)) (hp : parseObj (utf8 line) = some E0)
    (hfuel : 2 * (utf8 line).length < fuel) :
    RedactMongoLog g Generated.tables fuel line = some (redactLine Generated.tables (absCfg g) [] plan E0, false) := by
  have hd := parseObj_depth _ E0 hp
  rw [← heager]
  exact RedactMongoLog_eq_gen g fuel cal.hP plan cal.hplan line E0 (hreader ▸ hp) (nodup_of_parseObj hp) (by omega)

/-- **C03, bytes in → bytes out, at source level**: with the model's parser as the reader and the model's printer as the writer (both
    compared with the Go codec byte for byte by the `text` correspondence), without `--redactFieldNames` prefixes, for EVERY line and
    every setting of the other options: either the reader rejects the line (and the translated `RedactMongoLog` returns that error
    and nothing else), or the line the tool would print parses back to an entry of the same shape as the entry read -/
theorem C03_src_bytes (plan : Str → Str → Str) (cal : Callees g plan) (hreader : g.UnmarshalOrdered = parseObj)
    (heager : g.eagerRedactionPaths = []) (line : Str) (hfuel : 2 * (utf8 line).length < fuel) :
    (parseObj (utf8 line) = none ∧ RedactMongoLog g Generated.tables fuel line = some ([], true)) ∨
    (∃ E0 out out2, parseObj (utf8 line) = some E0 ∧ RedactMongoLog g Generated.tables fuel line = some (out, false) ∧
      parseObj (printObj out) = some out2 ∧ shapeEq (.obj E0) (.obj out2) = true) := by
  cases hp : parseObj (utf8 line) with
  | none => exact .inl ⟨rfl, RedactMongoLog_err g Generated.tables fuel line (hreader ▸ hp)⟩
  | some E0 =>
    obtain ⟨out2, h1, h2⟩ := C03_bytes Generated.tables C03_number_placeholder_valid (absCfg g) plan (utf8 line) E0 hp
    exact .inr ⟨E0, _, out2, rfl, run_of_parse g fuel plan cal hreader heager line E0 hp hfuel, h1, h2⟩

/-- **C19, bytes in → bytes out, at source level**: in placeholder mode with the value flags only, for every line the reader
    accepts: a line whose bytes are the printed output of the first run is accepted by the reader, and the translated
    `RedactMongoLog` run on it returns an entry that prints to those same bytes -/
theorem C19_src_bytes (plan : Str → Str → Str) (cal : Callees g plan) (hreader : g.UnmarshalOrdered = parseObj)
    (heager : g.eagerRedactionPaths = []) (hplain : g.shouldEncrypt = false) (hfull : g.redactedFieldsRegexp = none)
    (hns : g.redactNamespaces = false) (hrepl : isEmail g.redactedString = false)
    (line : Str) (E0 : List (Str × J)) (hp : parseObj (utf8 line) = some E0) (hfuel : 2 * (utf8 line).length < fuel) :
    ∃ out, RedactMongoLog g Generated.tables fuel line = some (out, false) ∧
      ∀ (line2 : Str) (fuel2 : Nat), utf8 line2 = printObj out → 2 * (utf8 line2).length < fuel2 →
        ∃ out2, RedactMongoLog g Generated.tables fuel2 line2 = some (out2, false) ∧ printObj out2 = printObj out := by
  refine ⟨_, run_of_parse g fuel plan cal hreader heager line E0 hp hfuel, fun line2 fuel2 h2 hf2 => ?_⟩
  obtain ⟨e2, he2, hsame⟩ := C19_bytes Generated.tables C03_number_placeholder_valid (absCfg g) (absCfg_enc_none g hplain) hfull hns hrepl
    C19_constants.1 plan (utf8 line) E0 hp
  exact ⟨_, run_of_parse g fuel2 plan cal hreader heager line2 e2 (h2 ▸ he2) hf2, hsame⟩

example : ∃ out, RedactMongoLog witness Generated.tables 10 witnessLine = some (out, false) ∧ shapeEq (.obj witnessEntry) (.obj out) = true :=
  C03_src witness 10 redactPlan witness_callees rfl witnessLine witnessEntry witness_parse (by decide +kernel) (by decide +kernel)

end Anonymongo.Src
