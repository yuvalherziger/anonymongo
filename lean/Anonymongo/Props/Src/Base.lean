/-
  Props/Src/Base.lean — what the refinement proofs about the TRANSLATED functions (Generated/Src.lean) share; every module of
  Props/Src except Key imports it: `absCfg` (Go option variables → model configuration), the treatment of string-literal names, Go
  primitives on known arguments, and `for` loops - one iteration (`forIn_cons_…`), a fold (`forIn_yield_fold…`), a search (`forIn_first`),
  a slice filled slot by slot (`forIn_zipIdx_setmap`, `forIn_fill`) - with the index and slice facts they need.
  No theorem about a particular translated function lives here, so that a change of one function cannot stop the theorems about
  another from checking.
  Which theorems of Props/Src `./check` audits, and for which properties, is `SRC_THEOREMS` in tools/registry.py; the list includes
  steps (`Q_step`, `opsLoop`, `seqOp_map`, `k12_eq`, …), so a rename in this directory goes with an edit there.
  Imports Lemmas/Assoc on behalf of all of Props/Src.
-/
import Anonymongo.Generated.Src
import Anonymongo.Model.Walk
import Anonymongo.Lemmas.Assoc
namespace Anonymongo.Src
open Anonymongo Anonymongo.Go

/-- the model configuration that a state of the Go option variables stands for.  Encrypt mode is on when `shouldEncrypt` is
    set AND a key is installed; the ciphertext of a string is `base64 (Encrypt (utf8 s) key)`, an `Encrypt` error is `none`. -/
def absCfg (g : Globals) : Cfg where
  repl := g.redactedString
  nums := g.redactNumbers
  bools := g.redactBooleans
  ips := g.redactIPs
  ns := g.redactNamespaces
  re := g.redactedFieldsRegexp
  enc := if g.shouldEncrypt && g.encryptionKey.isSome then
      some (fun s => (g.Encrypt (utf8 s) g.encryptionKey).map g.b64) else none

theorem absCfg_enc_none (g : Globals) (h : g.shouldEncrypt = false) : (absCfg g).enc = none := by simp [absCfg, h]

/-! The translation names every string literal (`s_…`); the model has names of its own for some.  A pair is the same term `"…".toList`,
    so `rfl` proves `s_x = sX` by unfolding the names (such bridges are stated next to the function that uses the literal, since a
    constant exists only while some translated function mentions it).  Two DIFFERENT key strings are never compared by `rfl` / `decide`
    on the `toList`s (see the note in Lemmas/Assoc): rewrite with the bridges, get disequalities from `toList_ne`, `toList_not_mem`,
    `nodupKeys_toList`. -/

theorem metaEq_isTy (v : Meta) (t : OpT) : metaEq v (Meta.ty t) = v.isTy t := by cases v <;> rfl

theorem metaEq_nil (v : Meta) : metaEq v Meta.nil = (match v with | .nil => true | _ => false) := by
  cases v <;> simp [metaEq]

/-- the Go pair `(value, found)` for a model lookup result -/
def pairOf : Option Meta → Meta × Bool
  | some m => (m, true)
  | none => (.nil, false)

theorem asTable_map (m : MTable) : asTable (.map m) = (m, true) := rfl

theorem asTable_not_map (v : Meta) (h : ∀ m, v ≠ .map m) : asTable v = ([], false) := by
  cases v with
  | map m => exact absurd rfl (h m)
  | _ => rfl

theorem tblGet_eq (m : MTable) (k : Str) : tblGet m k = pairOf (lookup k m) := by
  unfold tblGet pairOf; cases lookup k m <;> rfl

theorem utf8Enc_length_pos (c : Char) : 0 < (utf8Enc c).length := by
  unfold utf8Enc
  dsimp only
  repeat' split
  all_goals exact Nat.succ_pos _

theorem decide_strLen_pos (s : Str) : (decide (strLen s > 0)) = !s.isEmpty := by
  cases s with
  | nil => rfl
  | cons c r =>
    refine decide_eq_true (Int.ofNat_lt.2 ?_)
    rw [utf8Len, utf8, List.flatMap_cons, List.length_append]
    exact Nat.lt_of_lt_of_le (utf8Enc_length_pos c) (Nat.le_add_right _ _)

/-- `str != ""`, the other spelling of `len(str) > 0` -/
theorem beq_s_empty (s : Str) : (s == s_empty) = s.isEmpty := by
  cases s <;> rfl

/-- `s, _ := m.Get(k); str, _ := s.(string)`: the string under `k`, or the empty string -/
theorem asStr_objGet (E : List (Str × J)) (k : Str) : (asStr (objGet E k).1).1 = strOrEmpty (lookup k E) := by
  unfold objGet
  cases lookup k E with
  | none => rfl
  | some v => cases v <;> rfl

theorem goAnd_some (a b : Bool) : goAnd (some a) (fun _ => some b) = some (a && b) := by cases a <;> rfl

theorem some_bind {α β : Type} (a : α) (f : α → Option β) : (some a >>= f) = f a := rfl

theorem forIn_cons_yield {α β : Type} (x : α) (xs : List α) (init b' : β) (f : α → β → Option (ForInStep β))
    (h : f x init = some (.yield b')) : forIn (x :: xs) init f = forIn xs b' f := by
  simp [List.forIn_cons, h]

theorem forIn_cons_done {α β : Type} (x : α) (xs : List α) (init b' : β) (f : α → β → Option (ForInStep β))
    (h : f x init = some (.done b')) : forIn (x :: xs) init f = some b' := by
  simp [List.forIn_cons, h]

/-- an iteration that executes `return (← o)`: the body leaves the loop with the value of `o` stored in the state by `k` (or panics
    as `o` does), and the code after the loop, `K`, hands a stored value out -/
theorem forIn_cons_return {α β γ : Type} (x : α) (xs : List α) (init : β) (f : α → β → Option (ForInStep β))
    (o : Option γ) (k : γ → β) (K : β → Option γ)
    (h : f x init = o >>= fun r => some (.done (k r))) (hK : ∀ r, K (k r) = some r) :
    forIn (x :: xs) init f >>= K = o := by
  rw [List.forIn_cons, h]
  cases o with
  | none => rfl
  | some r => exact hK r

/-- an iteration that executes `return r` for a value `r` at hand -/
theorem forIn_cons_return_val {α β γ : Type} (x : α) (xs : List α) (init b : β) (f : α → β → Option (ForInStep β))
    (r : γ) (K : β → Option γ) (h : f x init = some (.done b)) (hK : K b = some r) :
    forIn (x :: xs) init f >>= K = some r := by
  rw [List.forIn_cons, h]; exact hK

/-- a loop that always continues as long as an invariant of the state holds is a fold (the invariant being kept) -/
theorem forIn_yield_fold_inv {α β : Type} (f : α → β → Option (ForInStep β)) (step : β → α → β) (Inv : β → Prop) :
    ∀ (xs : List α) (init : β), Inv init → (∀ x ∈ xs, ∀ s, Inv s → f x s = some (.yield (step s x)) ∧ Inv (step s x)) →
      forIn xs init f = some (xs.foldl step init)
  | [], _, _, _ => rfl
  | x :: xs, init, hi, h => by
    have hx := h x List.mem_cons_self init hi
    rw [forIn_cons_yield x xs init (step init x) f hx.1]
    exact forIn_yield_fold_inv f step Inv xs (step init x) hx.2 (fun y hy s hs => h y (List.mem_cons_of_mem _ hy) s hs)

theorem forIn_yield_fold_mem {α β : Type} (f : α → β → Option (ForInStep β)) (step : β → α → β) :
    ∀ (xs : List α) (init : β), (∀ x ∈ xs, ∀ s, f x s = some (.yield (step s x))) → forIn xs init f = some (xs.foldl step init) :=
  fun xs init h => forIn_yield_fold_inv f step (fun _ => True) xs init trivial (fun x hx s _ => ⟨h x hx s, trivial⟩)

theorem forIn_yield_fold {α β : Type} (f : α → β → Option (ForInStep β)) (step : β → α → β)
    (h : ∀ x s, f x s = some (.yield (step s x))) (xs : List α) (init : β) : forIn xs init f = some (xs.foldl step init) :=
  forIn_yield_fold_mem f step xs init fun x _ s => h x s

theorem any_foldl_or {α} (q : α → Bool) : ∀ (xs : List α) (b : Bool), xs.foldl (fun b x => b || q x) b = (b || xs.any q)
  | [], b => (Bool.or_false b).symm
  | _ :: xs, _ => (any_foldl_or q xs _).trans (Bool.or_assoc ..)

theorem foldl_prod {α β γ : Type} (f : β → α → β) (g : γ → α → γ) : ∀ (xs : List α) (s : β × γ),
    xs.foldl (fun s x => (f s.1 x, g s.2 x)) s = (xs.foldl f s.1, xs.foldl g s.2)
  | [], _ => rfl
  | _ :: xs, _ => foldl_prod f g xs _

/-- a search: a loop that leaves with `d` at the first element satisfying `q` and otherwise passes its state `s` on unchanged
    (`return true` inside the loop, or a flag raised before a `break`) -/
theorem forIn_first {α β : Type} (q : α → Bool) (f : α → β → Option (ForInStep β)) (s d : β)
    (hf : ∀ x, f x s = some (if q x = true then .done d else .yield s)) :
    ∀ xs : List α, forIn xs s f = some (if xs.any q = true then d else s)
  | [] => rfl
  | x :: xs => by
    rw [List.forIn_cons, hf, List.any_cons]
    cases q x
    · exact forIn_first q f s d hf xs
    · rfl

/-- a loop that overwrites element `i` of the slice it walks over with a function of the element is `map` -/
theorem forIn_zipIdx_setmap {α : Type} (f : α × Nat → List α → Option (ForInStep (List α))) (h : α → α) :
    ∀ (rest pre : List α),
      (∀ x ∈ rest, ∀ (pre' rest' : List α), f (x, pre'.length) (pre' ++ x :: rest') = some (.yield (pre' ++ h x :: rest'))) →
      forIn (rest.zipIdx pre.length) (pre ++ rest) f = some (pre ++ rest.map h)
  | [], pre, _ => rfl
  | x :: rest, pre, hf =>
    (forIn_cons_yield _ _ _ _ f (hf x List.mem_cons_self pre rest)).trans <| by
      have := forIn_zipIdx_setmap f h rest (pre ++ [h x]) fun y hy => hf y (List.mem_cons_of_mem _ hy)
      rwa [List.length_append, List.append_assoc, List.append_assoc] at this

/-- the same with a second slice, as long as the first and filled with `d`, receiving the values: slot `i` gets `h` of element `i` -/
theorem forIn_fill {α β : Type} (f : α × Nat → List β → Option (ForInStep (List β))) (h : α → β) (d : β) :
    ∀ (rest : List α) (pre : List β),
      (∀ x ∈ rest, ∀ (pre' rest' : List β) (y : β), f (x, pre'.length) (pre' ++ y :: rest') = some (.yield (pre' ++ h x :: rest'))) →
      forIn (rest.zipIdx pre.length) (pre ++ List.replicate rest.length d) f = some (pre ++ rest.map h)
  | [], pre, _ => rfl
  | x :: rest, pre, hf =>
    (forIn_cons_yield _ _ _ _ f (hf x List.mem_cons_self pre (List.replicate rest.length d) d)).trans <| by
      have := forIn_fill f h d rest (pre ++ [h x]) fun y hy => hf y (List.mem_cons_of_mem _ hy)
      rwa [List.length_append, List.append_assoc, List.append_assoc] at this

theorem idx_append_length {α : Type} (pre : List α) (x : α) (rest : List α) :
    idx (pre ++ x :: rest) (pre.length : Int) = some x := by
  simp [idx]

theorem idx_append_length_succ {α : Type} (pre : List α) (x y : α) (rest : List α) :
    idx (pre ++ x :: y :: rest) ((pre.length : Int) + 1) = some y := by
  simpa using idx_append_length (pre ++ [x]) y rest

theorem idx_last (kp : List Str) (h : kp ≠ []) : idx kp (len kp - 1) = some (lastD kp) := by
  obtain ⟨pre, x, rfl⟩ : ∃ pre x, kp = pre ++ [x] := ⟨_, _, (List.dropLast_concat_getLast h).symm⟩
  have e : len (pre ++ [x]) - 1 = (pre.length : Int) := by rw [len, List.length_append, List.length_singleton]; omega
  rw [e, idx_append_length, lastD, List.getLastD_concat]

theorem sliceFrom_app {α : Type} (pre rest : List α) : sliceFrom (pre ++ rest) (pre.length : Int) = some rest := by
  simp [sliceFrom]; omega

theorem sliceFrom_app1 {α : Type} (pre : List α) (x : α) (rest : List α) :
    sliceFrom (pre ++ x :: rest) ((pre.length : Int) + 1) = some rest := by
  simpa using sliceFrom_app (pre ++ [x]) rest

theorem sliceFrom_app2 {α : Type} (pre : List α) (x y : α) (rest : List α) :
    sliceFrom (pre ++ x :: y :: rest) ((pre.length : Int) + 2) = some rest := by
  simpa using sliceFrom_app (pre ++ [x, y]) rest

theorem sliceTo_app {α : Type} (pre rest : List α) : sliceTo (pre ++ rest) (pre.length : Int) = some pre := by
  simp [sliceTo]; omega

theorem sliceTo_app1 {α : Type} (pre : List α) (x : α) (rest : List α) :
    sliceTo (pre ++ x :: rest) ((pre.length : Int) + 1) = some (pre ++ [x]) := by
  simpa using sliceTo_app (pre ++ [x]) rest

/-- `xs[i] = v` at the position after `pre` -/
theorem setIdx_mid {α : Type} (pre : List α) (x v : α) (rest : List α) :
    setIdx (pre ++ x :: rest) (pre.length : Int) v = some (pre ++ v :: rest) := by
  have h1 : ¬ ((pre.length : Int) < 0 ∨ ((pre ++ x :: rest).length : Int) ≤ (pre.length : Int)) := by
    rw [List.length_append, List.length_cons]; omega
  rw [setIdx, if_neg h1, Int.toNat_natCast, List.set_append_right _ _ (Nat.le_refl _), Nat.sub_self, List.set_cons_zero]

end Anonymongo.Src
