/-
  Props/Src/Key.lean — the TRANSLATED key-file functions `ReadKeyFromFile`, `WriteKeyToFile`, `FileExists` against the model's `KeyFile`
  (`readKey`, `step`).  `os.ReadFile`, `os.WriteFile`, `os.Stat` and the base64 codec are parameters (the model's decoder,
  Model/Base64.lean, is compared with encoding/base64 byte for byte by the `crypto` correspondence).  Independent of Props/Src/Base.
-/
import Anonymongo.Generated.Src
import Anonymongo.Model.KeyFile
namespace Anonymongo.Src
open Anonymongo Anonymongo.Go

/-- the Go pair `(key, err != nil)` for the model's verdict -/
def keyPair : Option Bytes → Bytes × Bool
  | some k => (k, false)
  | none => ([], true)

/-- the length test `len(key) == 64` (`!= 64`) of both functions -/
theorem len_beq_64 (k : Bytes) : (len k == (64 : Int)) = decide (k.length = 64) := by
  rw [len, Bool.beq_eq_decide_eq, decide_eq_decide]
  omega

/-- **`ReadKeyFromFile` is the model's `readKey`** on the file's bytes; an unreadable file is refused -/
theorem ReadKeyFromFile_eq (g : Globals) (T : Tables) (B : KeyFile.B64) (hB : B.dec = g.b64dec) (path : Str) :
    ReadKeyFromFile g T path = some (keyPair ((g.ReadFile path).bind (KeyFile.readKey B))) := by
  unfold ReadKeyFromFile
  cases hr : g.ReadFile path with
  | none => simp [errPair, keyPair]
  | some content =>
    cases hd : g.b64dec content with
    | none => simp [errPair, Option.bind, KeyFile.readKey, hB, hd, keyPair]
    | some k =>
      by_cases hl : k.length = 64 <;> simp [errPair, Option.bind, KeyFile.readKey, hB, hd, len_beq_64, hl, keyPair]

/-- in particular: whatever `ReadKeyFromFile` accepts is 64 bytes long and is the decoding of the file's content -/
theorem ReadKeyFromFile_accepts (g : Globals) (T : Tables) (path : Str) (k : Bytes)
    (h : ReadKeyFromFile g T path = some (k, false)) : k.length = 64 ∧ ∃ content, g.ReadFile path = some content ∧ g.b64dec content = some k := by
  unfold ReadKeyFromFile at h
  cases hr : g.ReadFile path with
  | none => simp [hr, errPair] at h
  | some content =>
    cases hd : g.b64dec content with
    | none => simp [hr, hd, errPair] at h
    | some k' =>
      by_cases hl : k'.length = 64 <;> simp [hr, hd, errPair, len_beq_64, hl] at h
      subst h
      exact ⟨hl, content, rfl, hd⟩

/-- **`WriteKeyToFile`**: nothing is written unless the key is 64 bytes long; then there is exactly one write — of the base64 text
    of the key, to the given path, with permission bits 0600 (= 384) — and the function's error is that write's error -/
theorem WriteKeyToFile_eq (g : Globals) (T : Tables) (path : Str) (key : Bytes) :
    WriteKeyToFile g T path key = some (if key.length = 64 then g.WriteFile path (utf8 (g.b64 key)) 384 else true) := by
  unfold WriteKeyToFile
  by_cases hl : key.length = 64
  · cases hw : g.WriteFile path (utf8 (g.b64 key)) 384 <;> simp [len_beq_64, hl, hw]
  · simp [len_beq_64, hl]

/-- what `WriteKeyToFile` writes is what the model's key step leaves at the key path (`KeyFile.step … .absent`) -/
theorem WriteKeyToFile_model (g : Globals) (B : KeyFile.B64) (hE : ∀ b, B.enc b = utf8 (g.b64 b)) (fresh : Bytes) (h : fresh.length = 64) :
    (KeyFile.step B fresh .absent).1 = .file (utf8 (g.b64 fresh)) := by
  simp [KeyFile.step, h, hE]

/-- **write, then read**: a key of 64 bytes written by `WriteKeyToFile` — the file then holding what was written — is the key
    `ReadKeyFromFile` returns, for every base64 codec with the round-trip law -/
theorem Write_then_Read (g : Globals) (T : Tables) (B : KeyFile.B64) (hB : B.dec = g.b64dec) (hE : ∀ b, B.enc b = utf8 (g.b64 b))
    (path : Str) (key : Bytes) (hl : key.length = 64) (hfile : g.ReadFile path = some (utf8 (g.b64 key))) :
    ReadKeyFromFile g T path = some (key, false) := by
  rw [ReadKeyFromFile_eq g T B hB, hfile]
  have : B.dec (utf8 (g.b64 key)) = some key := by rw [← hE]; exact B.dec_enc key
  simp [Option.bind, KeyFile.readKey, this, hl, keyPair]

/-- **`FileExists`**: false when `os.Stat` reports not-exist; a PANIC (nil FileInfo dereferenced) on any other `os.Stat` error;
    otherwise "is not a directory" -/
theorem FileExists_eq (g : Globals) (T : Tables) (path : Str) :
    FileExists g T path = (match g.Stat path with
      | .notExist => some false
      | .otherErr => none
      | .ok d => some (!d)) := by
  unfold FileExists
  cases g.Stat path <;> simp [statPair, isNotExist, infoIsDir]

/-- what `os.Stat` says of the model's file-system object at the key path -/
def statOf : KeyFile.FsObj → StatRes
  | .absent => .notExist
  | .absentNoParent => .notExist
  | .file _ => .ok false
  | .unreadable _ => .ok false
  | .dir => .ok true
  | .statFails => .otherErr

/-- the model's key step branches on exactly the answer of the translated `FileExists`: where it panics the run crashes; where it
    says true the file is read and never written; where it says false the path holds no regular file -/
theorem FileExists_model (g : Globals) (T : Tables) (B : KeyFile.B64) (fresh : Bytes) (o : KeyFile.FsObj) (path : Str)
    (h : g.Stat path = statOf o) :
    (FileExists g T path = none → (KeyFile.step B fresh o).2 = .crash) ∧
    (FileExists g T path = some true → (KeyFile.step B fresh o).1 = o) ∧
    (FileExists g T path = some false → o = .absent ∨ o = .absentNoParent ∨ o = .dir) := by
  rw [FileExists_eq, h]
  cases o with
  | file c => simp only [statOf, KeyFile.step]; cases KeyFile.readKey B c <;> simp
  | _ => simp [statOf, KeyFile.step]

end Anonymongo.Src
