/-
  Props/C03.lean — PROPERTY C03: redaction preserves the JSON shape of every line (`C03_walk`, lifted through
  `RedactMongoLog` by `redactLine_lift`, Lemmas/LineLift) and emits one physical line (`C03_one_line`, byte level).
  That the printed line parses back to the redacted tree is `C03_reparse` (Props/C03b).
-/
import Anonymongo.Lemmas.ModeChar
import Anonymongo.Lemmas.Shape
import Anonymongo.Lemmas.LineLift
import Anonymongo.Lemmas.NumsOk
import Anonymongo.Generated.Tables
namespace Anonymongo

/-- walker level: every automaton state, every tree -/
theorem C03_walk (c : Ctx) (h : c.rfn = false) (s : St) (v : J) (hn : v.nodup = true) :
    shapeEq v (c.run s v) = true :=
  Ctx.run_shape c (Ctx.shapeOK_of_noRfn c h) s v hn

/-- **C03 (tree level)**: with field-name redaction off, `RedactMongoLog` preserves the shape
    of every line that has no duplicate sibling keys. -/
theorem C03_line (T : Tables) (cfg : Cfg) (plan : Str → Str → Str)
    (entry : List (Str × J)) (hn : (J.obj entry).nodup = true) :
    shapeEq (.obj entry) (.obj (redactLine T cfg [] plan entry)) = true :=
  -- "same shape, for an input without duplicate keys" is a relation `RedactMongoLog` lifts from the walkers
  redactLine_lift (fun a b => a.nodup = true → shapeEq a b = true)
    (fun v _ => shapeEq_refl v)
    (fun a b c h1 h2 ha => shapeEq_trans a b c (h1 ha) (h2 (nodup_of_shapeEq a b (h1 ha) ha)))
    (fun _ _ _ => by simp [shapeEq])
    (fun h l hh hl => by
      simp only [J.nodup, Bool.and_eq_true] at hl
      simp only [shapeEq]; exact shapeEqKVs_of_mem h l fun k v hm => hh k v (nodupKVs_mem hl.2 hm))
    (fun f xs hf hx => by
      simp only [J.nodup] at hx
      simp only [shapeEq]; exact shapeEqList_of_mem f xs fun x hm => hf x (nodupList_mem hx hm))
    T cfg [] plan (fun rfn he s v hv => C03_walk ⟨T, cfg, rfn⟩ (he rfl) s v hv) entry hn

/-- non-vacuity: a concrete gated line with a null, nested arrays and an operator meets the hypotheses -/
example : (J.obj [("c".toList, .str "COMMAND".toList),
    ("attr".toList, .obj [("command".toList, .obj [("filter".toList,
      .obj [("a".toList, .null), ("b".toList, .arr [.arr [], .obj [("$eq".toList, .str "x".toList)]])])])])]).nodup = true := by
  decide

/-- **C03 (one physical line, byte level)**: for every line the parser accepts, every flag set
    (field-name redaction, selective mode, encrypt mode included) and every plan-summary rewriter, the
    emitted bytes contain no line feed, no carriage return and no other control byte — the output line
    is exactly one physical line.  (The only assumption is on the regenerated number placeholder,
    discharged for the current tables by `C03_number_placeholder_ok`.) -/
theorem C03_one_line (T : Tables) (hT : (T.number.all fun ch => 0x20 ≤ ch.toNat) = true) (cfg : Cfg) (eager : List Str)
    (plan : Str → Str → Str) (bs : Bytes) (entry : List (Str × J)) (hp : parseObj bs = some entry) :
    ∀ b ∈ printObj (redactLine T cfg eager plan entry), b ≠ 10 ∧ b ≠ 13 ∧ 0x20 ≤ b :=
  printObj_one_line _ (redactLine_numsOk T hT cfg eager plan entry (parseObj_numsOk bs entry hp))

theorem C03_number_placeholder_ok : (Generated.tables.number.all fun ch => 0x20 ≤ ch.toNat) = true := by decide +kernel

end Anonymongo
