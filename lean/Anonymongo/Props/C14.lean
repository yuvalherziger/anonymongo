/-
  Props/C14.lean — PROPERTY C14: selective mode redacts exactly the values under a matching name.

  The regular expression is an ARBITRARY predicate `m : Str → Bool` on names; the only assumption is that it does not match
  the empty name (a scalar array element is judged under the empty key — stage walker, and the array zones — and Go's
  `MatchString` is unanchored: `x*` matches "").  At every scalar leaf, `names s` (Lemmas/ModeChar) being the keys in force:
    (K) no name on the path matches, no `$field` sibling rule, not inside a search stage ⇒ the leaf is emitted unchanged
        (with `--redactNamespaces`: or it is a string at a namespace position that became its own pseudonym, `SelRelNs`);
    (R) some name on the path matches (or the sibling rule fires) ⇒ a leaf handed to `redactScalarValue` is redacted
        exactly as in full-redaction mode (`forced`, `C14_forced`).
-/
import Anonymongo.Lemmas.Rel
import Anonymongo.Lemmas.ModeChar
import Anonymongo.Props.C05
namespace Anonymongo
namespace Ctx

/-- `redactScalarValue` with the selective test switched off (= full-redaction mode) -/
def forced (c : Ctx) (kp : List Str) (v : J) (S : Bool) : J := redactScalar c.T c.cfg kp v S true

def isNsMember : St → Bool
  | .NsMember => true
  | _ => false

/-- (K) and (R) of the header, flag --redactNamespaces off -/
def SelRel (c : Ctx) (m : Str → Bool) (s : St) (a b : J) : Prop :=
  (searchOf s = false → isNsMember s = false → (names s).any m = false → selOf s = false → b = a) ∧
  (∀ kp S sel, c.leafMode s a = .scalar kp S sel → ((names s).any m = true ∨ selOf s = true) → b = c.forced kp a S)

/-- the same for either value of --redactNamespaces: in (K) the leaf may also be a string that became its own pseudonym -/
def SelRelNs (c : Ctx) (m : Str → Bool) (s : St) (a b : J) : Prop :=
  (searchOf s = false → isNsMember s = false → (names s).any m = false → selOf s = false →
      b = a ∨ (c.cfg.ns = true ∧ ∃ x, a = .str x ∧ b = .str (c.H x))) ∧
  (∀ kp S sel, c.leafMode s a = .scalar kp S sel → ((names s).any m = true ∨ selOf s = true) → b = c.forced kp a S)

theorem callOf_matched (c : Ctx) (m : Str → Bool) (hre : c.cfg.re = some m) (s : St) (kp : List Str) (S sel : Bool)
    (hc : callOf c s = .scalar kp S sel) (hany : (names s).any m = true ∨ selOf s = true) :
    sel = true ∨ reMatchesAny c.cfg.re kp = true := by
  have hr := reMatchesAny_some hre
  cases (callOf_inv c hc).2 with
  | path hsel => exact .inr ((hr _).trans (hany.resolve_right (hsel ▸ Bool.false_ne_true)))
  | elem hsel => exact .inl ((hr _).trans (hany.resolve_right (hsel ▸ Bool.false_ne_true)))
  | arr pk kp' hn =>
    -- a key above the parent key or the sibling flag selects the call; the parent key itself is the call path
    rw [hn, List.any_append, Bool.or_eq_true] at hany
    rw [hr, hr, Bool.or_eq_true]
    rcases hany with (h | h) | h
    · exact .inl (.inr h)
    · exact .inr h
    · exact .inl (.inl h)

/-- `m [] = false` is needed in case `elem`: the empty key is the call path there -/
theorem callOf_unmatched (c : Ctx) (m : Str → Bool) (hre : c.cfg.re = some m) (hempty : m [] = false)
    (s : St) (kp : List Str) (S sel : Bool) (hc : callOf c s = .scalar kp S sel)
    (hS : searchOf s = false) (hn : (names s).any m = false) (hsel : selOf s = false) :
    S = false ∧ sel = false ∧ kp.any m = false := by
  have hr := reMatchesAny_some hre
  obtain ⟨rfl, h⟩ := callOf_inv c hc
  refine ⟨hS, ?_⟩
  cases h with
  | path => exact ⟨rfl, hn⟩
  | elem => exact ⟨(hr _).trans hn, by rw [List.any_cons, hempty]; rfl⟩
  | arr pk kp' hnm =>
    rw [hnm, List.any_append, Bool.or_eq_false_iff] at hn
    exact ⟨by rw [hsel, hr, hn.1]; rfl, hn.2⟩

/-- every scalar is `SelRelNs`-related to what the walker emits for it — with or without `--redactNamespaces` -/
theorem selRelNs_run (c : Ctx) (m : Str → Bool) (hre : c.cfg.re = some m) (hrfn : c.rfn = false)
    (hempty : m [] = false) (s : St) (a : J) (ha : a.isScalar = true) : c.SelRelNs m s a (c.run s a) := by
  rw [run_scalar c s a ha]
  refine ⟨fun hS hok hn hsel => ?_, fun kp S sel hm hany => ?_⟩
  · -- (K): nothing matches => unchanged, or a namespace position
    cases hm : c.leafMode s a with
    | keep => exact Or.inl rfl
    | hash x =>
      obtain ⟨rfl, h | h | rfl⟩ := leafMode_inv c s a _ hm
      · simp [hrfn] at h
      · exact Or.inr ⟨h.1, x, rfl, rfl⟩
      · cases hok
    | scalar kp S sel =>
      obtain ⟨rfl, rfl, h⟩ := callOf_unmatched c m hre hempty s kp S sel (scalar_call c hrfn s a kp S sel hm) hS hn hsel
      exact Or.inl (redactScalar_unmatched c.T c.cfg m hre kp a h)
  · -- (R): something matches => forced redaction
    rw [hm]
    exact redactScalar_matched _ _ _ _ _ _ (callOf_matched c m hre s kp S sel (scalar_call c hrfn s a kp S sel hm) hany)

/-- with `--redactNamespaces` off no leaf becomes a pseudonym, so `SelRelNs` is `SelRel` -/
theorem selRel_run (c : Ctx) (m : Str → Bool) (hre : c.cfg.re = some m) (hrfn : c.rfn = false) (hns : c.cfg.ns = false)
    (hempty : m [] = false) (s : St) (a : J) (ha : a.isScalar = true) : c.SelRel m s a (c.run s a) :=
  have ⟨hK, hR⟩ := selRelNs_run c m hre hrfn hempty s a ha
  ⟨fun hS hok hn hsel => (hK hS hok hn hsel).resolve_right (fun h => by simp [hns] at h), hR⟩

end Ctx

/-- **C14 (walker level, any setting of --redactNamespaces)**: from every state, for every tree without duplicate
    sibling keys, input and output are related leaf by leaf by `SelRelNs` (and have the same shape: `RelAt`) -/
theorem C14_walk_ns (c : Ctx) (m : Str → Bool) (hre : c.cfg.re = some m) (hrfn : c.rfn = false)
    (hempty : m [] = false) (s : St) (v : J) (hn : v.nodup = true) : c.RelAt (c.SelRelNs m) s v (c.run s v) :=
  Ctx.relAt_run c hrfn (c.SelRelNs m) (fun s a ha => Ctx.selRelNs_run c m hre hrfn hempty s a ha) s v hn

/-- **C14 (walker level)**: the case `--redactNamespaces` off, where (K) says the leaf is unchanged -/
theorem C14_walk (c : Ctx) (m : Str → Bool) (hre : c.cfg.re = some m) (hrfn : c.rfn = false) (hns : c.cfg.ns = false)
    (hempty : m [] = false) (s : St) (v : J) (hn : v.nodup = true) : c.RelAt (c.SelRel m) s v (c.run s v) :=
  Ctx.relAt_run c hrfn (c.SelRel m) (fun s a ha => Ctx.selRel_run c m hre hrfn hns hempty s a ha) s v hn

/-- **C14 (forced redaction is full redaction)**: in placeholder mode the forced result is the value
    itself only for path reasons (exempt operator), else exactly the class placeholder -/
theorem C14_forced (c : Ctx) (hplain : c.cfg.enc = none) (kp : List Str) (v : J) (S : Bool) :
    c.forced kp v S = if isTy? (getOp c.T kp S) .Exempt then v else placeholderOf c.T c.cfg v (classOf kp v) := by
  rw [Ctx.forced, C05_class c.T c.cfg hplain, keptByPath_sel]

/-- **C14 (path accumulation, query walker)**: the names in force below a key are the names above it
    plus that key; arrays are transparent; an array element that is a document continues the path -/
theorem C14_path_query (c : Ctx) (S : Bool) (co : Option Meta) (k : Str) (nkp : List Str) (kvs : List (Str × J)) (xs : List J)
    (pk : Str) (sel : Bool) (kp : List Str) :
    (∃ f, c.node (.QVal S co k nkp) (.obj kvs) = .obj f ∧ ∀ k' x, Ctx.names (f k' x).2 = nkp ++ [k']) ∧
    (∃ s', c.node (.QVal S co k nkp) (.arr xs) = .arr s' ∧ Ctx.names s' = nkp ++ [k]) ∧
    (∃ f, c.node (.AElem S pk sel kp) (.obj kvs) = .obj f ∧ ∀ k' x, Ctx.names (f k' x).2 = kp ++ [k']) ∧
    (∃ s', c.node (.AElem S pk sel kp) (.arr xs) = .arr s' ∧ Ctx.names s' = kp ++ [pk] ∧ Ctx.selOf s' = sel) := by
  refine ⟨⟨_, rfl, ?_⟩, ⟨_, rfl, rfl⟩, ⟨_, rfl, ?_⟩, ⟨_, rfl, rfl, rfl⟩⟩ <;> intro k' x <;> rfl

/-- the zones start with the empty path: names are counted from the root of the filter / update /
    document, exactly as the property says -/
theorem C14_path_root (c : Ctx) (kvs : List (Str × J)) :
    ∃ f, c.node .ZQ (.obj kvs) = .obj f ∧ ∀ k x, Ctx.names (f k x).2 = [k] := ⟨_, rfl, fun _ _ => rfl⟩

/-- **C14 (path accumulation, stage walker)**: below a stage key the path grows key by key (generic
    entries and sub-table entries alike) -/
theorem C14_path_stage (c : Ctx) (S : Bool) (kp : List Str) (kvs : List (Str × J)) :
    ∃ f, c.node (.P S kp) (.obj kvs) = .obj f ∧ ∀ k x, Ctx.names (f k x).2 = kp ++ [k] :=
  ⟨_, rfl, fun _ _ => rfl⟩

/-- **C14 (value independence)**: whether `redactScalarValue` hands a value back depends on the key
    path and the flags only (re-export of `C05_decision_value_free`) -/
theorem C14_value_free (T : Tables) (cfg : Cfg) (kp : List Str) (S sel : Bool) (v w : J) :
    keptByPath T cfg kp S sel = true → redactScalar T cfg kp v S sel = v ∧ redactScalar T cfg kp w S sel = w :=
  C05_decision_value_free T cfg kp S sel v w

/-- non-vacuity / worked instance: `{ssn: {$in: ["S"]}, n: "T"}` with the predicate "is `ssn`" -/
example : let m : Str → Bool := fun s => s == "ssn".toList
    let c : Ctx := ⟨Generated.tables, ⟨"R".toList, false, false, false, false, some m, none⟩, false⟩
    J.beq (c.run .ZQ (.obj [("ssn".toList, .obj [("$in".toList, .arr [.str "S".toList])]), ("n".toList, .str "T".toList)]))
      (.obj [("ssn".toList, .obj [("$in".toList, .arr [.str "R".toList])]), ("n".toList, .str "T".toList)]) = true := by
  decide +kernel

end Anonymongo
