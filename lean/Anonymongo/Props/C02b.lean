/-
  Props/C02b.lean — PROPERTY C02 in selective mode too (`--redactFieldsRegexp`, any predicate on names): placeholder
  mode, field-name redaction off, the regenerated tables; two trees related by `RelAt LeafRel` — same structure, equal
  wherever the walker copies, leaves of the same lexical class wherever it redacts — are redacted to the same tree
  (`C02_walk_sel`).  Props/C02.lean proves this for full-redaction mode; the general theorem is Lemmas/RelSel.lean
  `run_rel_sel`.  The tables must not hold a key twice: kernel-decided for the regenerated tables.
-/
import Anonymongo.Lemmas.RelSel
import Anonymongo.Props.C02
namespace Anonymongo
namespace Ctx

theorem aElem_dollar_not_scalar (c : Ctx) (S : Bool) (pk : Str) (sel : Bool) (kp : List Str) (x : J) (h : isDollar x = true)
    (kp' : List Str) (S' sel' : Bool) : c.leafMode (.AElem S pk sel kp) x ≠ .scalar kp' S' sel' := by
  cases x with
  | str s =>
    rw [isDollar_str] at h
    simp only [leafMode, aElemScalarMode, h, if_true, dollarMode]
    split <;> simp
  | _ => cases h

theorem fieldName_str_not_scalar (c : Ctx) (hrfn : c.rfn = false) (S : Bool) (k : Str) (nkp : List Str) (sk : Str) (x : J)
    (h : isStrJ x = true) (kp' : List Str) (S' sel' : Bool) :
    c.leafMode (.SubVal S k nkp sk (some (.ty .FieldName))) x ≠ .scalar kp' S' sel' := by
  cases x <;> simp_all [isStrJ, leafMode, subValScalarMode]

theorem leafSimSel (c : Ctx) (hplain : c.cfg.enc = none) (hrfn : c.rfn = false) : LeafSimSel c c.LeafRel where
  toLeafSim := c.leafSim hplain
  elemDollar := fun S pk sel kp a b _ h hd =>
    h.eq_of_not_scalar (hd.imp (aElem_dollar_not_scalar c S pk sel kp a) (aElem_dollar_not_scalar c S pk sel kp b))
  fieldName := fun S k nkp sk a b _ h hd =>
    h.eq_of_not_scalar (hd.imp (fieldName_str_not_scalar c hrfn S k nkp sk a) (fieldName_str_not_scalar c hrfn S k nkp sk b))

end Ctx

/-- the regenerated tables hold no key twice, at any depth — kernel-decided -/
theorem Gen_tables_nodup : ∀ tb : Spec.TableId, allNodup (tbl Generated.tables tb) = true := by
  intro tb; cases tb <;> decide +kernel

/-- **C02 (selective mode included)**: placeholder mode over the regenerated tables, field-name redaction off, any
    other flags, ANY predicate for `--redactFieldsRegexp`: related trees are redacted to the same tree -/
theorem C02_walk_sel (c : Ctx) (hT : c.T = Generated.tables) (hplain : c.cfg.enc = none) (hrfn : c.rfn = false) (s : St) (a b : J)
    (h : c.RelAt c.LeafRel s a b) : c.run s a = c.run s b := by
  have hnd : Ctx.SearchTablesNodup c.T := by
    rw [hT]; exact searchTablesNodup_of_tables _ Gen_tables_nodup
  exact (Ctx.run_rel_sel c c.LeafRel (c.leafSimSel hplain hrfn) hnd s a b h).1

/-- non-vacuity: with the predicate "is `ssn`", `{ssn: {$in: ["A"]}, n: "T"}` and `{ssn: {$in: ["B-longer"]}, n: "T"}` are
    related (the literal under `ssn` may differ, the one under `n` is kept and must be equal) -/
example : let m : Str → Bool := fun s => s == "ssn".toList
    let c : Ctx := ⟨Generated.tables, ⟨"R".toList, false, false, false, false, some m, none⟩, false⟩
    c.run .ZQ (.obj [("ssn".toList, .obj [("$in".toList, .arr [.str "A".toList])]), ("n".toList, .str "T".toList)]) =
    c.run .ZQ (.obj [("ssn".toList, .obj [("$in".toList, .arr [.str "B-longer".toList])]), ("n".toList, .str "T".toList)]) := by
  intro m c
  apply C02_walk_sel c rfl rfl rfl
  refine ⟨_, rfl, _, _, rfl, ?_, _, _, rfl, ?_, rfl⟩
  · refine ⟨_, rfl, _, _, rfl, ?_, rfl⟩
    refine ⟨_, rfl, _, _, rfl, ?_, rfl⟩
    right
    refine ⟨rfl, ["$in".toList], false, true, rfl, rfl, by decide +kernel, by decide +kernel, by decide +kernel⟩
  · left; rfl

end Anonymongo
