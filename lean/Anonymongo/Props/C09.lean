/-
  Props/C09.lean — PROPERTIES C09 and C10 (string level): encrypted values decrypt back to exactly
  the original; encryption is deterministic, injective and fail-closed.  Parametric in ANY
  deterministic AEAD and base64 codec satisfying the stated laws (library assumptions).
  The concrete codec: Props/C09c; whole trees: Props/C10.
-/
import Anonymongo.Model.Daead
import Anonymongo.Lemmas.ScalarClass
namespace Anonymongo

/-- **C09 (round trip)**: the leaf emitted in encrypt mode for a string `s`, given to the decrypt
    command with the same key, yields exactly the UTF-8 bytes of `s` — any length incl. 0, any content -/
theorem C09_roundtrip (D : DAEAD) (B : B64) (key : Bytes) (hk : key.length = 64) (s ph : Str) (cfg : Cfg)
    (he : cfg.enc = some (encFn D B key)) :
    decryptCmd D B key (redactString cfg s ph) = .ok (utf8 s) := by
  simp [redactString, he, encFn, encryptApi, hk, decryptCmd, decryptApi, B.dec_enc, D.dec_enc]

/-- **C09 (never a wrong plaintext)**: whatever the decrypt command accepts under a key is the
    genuine ciphertext of exactly the bytes it prints; so a corrupted ciphertext or a different
    key can only be accepted if it IS a genuine encryption under that key. (That this happens with
    probability 2^-128 is a property of AES-SIV, not provable here: sampled.) -/
theorem C09_tamper (D : DAEAD) (B : B64) (key : Bytes) (value : Str) (pt raw : Bytes)
    (hraw : B.dec value = some raw) (h : decryptCmd D B key value = .ok pt) : raw = D.enc key pt := by
  simp only [decryptCmd, hraw, decryptApi] at h
  by_cases hk : key.length = 64
  · simp only [hk, if_true] at h
    cases hd : D.dec key raw with
    | none => simp [hd] at h
    | some p =>
      simp only [hd, DecryptResult.ok.injEq] at h
      subst h; exact D.dec_only key raw p hd
  · simp [hk] at h

/-- **C10 (deterministic)**: the ciphertext leaf is a function of (key, plaintext) only -/
theorem C10_det (D : DAEAD) (B : B64) (key : Bytes) (s : Str) (ph ph' : Str) (cfg cfg' : Cfg)
    (h1 : cfg.enc = some (encFn D B key)) (h2 : cfg'.enc = some (encFn D B key)) (hk : key.length = 64) :
    redactString cfg s ph = redactString cfg' s ph' := by
  simp [redactString, h1, h2, encFn, encryptApi, hk]

/-- **C10 (injective)**: different plaintexts give different ciphertext leaves (equality joins survive) -/
theorem C10_inj (D : DAEAD) (B : B64) (key : Bytes) (hk : key.length = 64) (s t : Str) :
    encFn D B key s = encFn D B key t → utf8 s = utf8 t := by
  simp only [encFn, encryptApi, hk, if_true, Option.map_some, Option.some.injEq]
  intro h
  have := congrArg (fun x => (B.dec x).bind (D.dec key)) h
  simpa [B.dec_enc, D.dec_enc] using this

/-- **C10 (fail-closed)**: in encrypt mode the leaf is the ciphertext, or — when the encryption
    step cannot be performed — the placeholder; never anything else, in particular never the
    plaintext unless the placeholder itself equals it -/
theorem C10_closed (cfg : Cfg) (f : Str → Option Str) (he : cfg.enc = some f) (s ph : Str) :
    redactString cfg s ph = (match f s with | some c => c | none => ph) :=
  redactString_enc cfg f he s ph

/-- unusable key material injected at the API level: every sensitive string becomes its placeholder -/
theorem C10_bad_key (D : DAEAD) (B : B64) (key : Bytes) (hk : key.length ≠ 64) (cfg : Cfg)
    (he : cfg.enc = some (encFn D B key)) (s ph : Str) : redactString cfg s ph = ph := by
  simp [redactString, he, encFn, encryptApi, hk]

/-- **C10 (placeholder-equivalent, leaf level)**: encrypt mode and placeholder mode take the same
    decision for every leaf; they differ only where placeholder mode replaces a string, and there
    encrypt mode emits `f s` (or the placeholder when `f` fails). Numbers, booleans, nulls and
    kept values are treated identically. -/
theorem C10_equiv_leaf (T : Tables) (cfg : Cfg) (f : Str → Option Str) (kp : List Str) (v : J) (S sel : Bool) :
    let plain := redactScalar T { cfg with enc := none } kp v S sel
    let encd := redactScalar T { cfg with enc := some f } kp v S sel
    encd = plain ∨
      (∃ s ph, v = .str s ∧ plain = .str ph ∧ encd = .str (match f s with | some c => c | none => ph)) := by
  intro plain encd
  -- `keptByPath` does not look at `enc`
  have hp : plain = if keptByPath T cfg kp S sel then v else redactAs T { cfg with enc := none } v (classOf kp v) :=
    redactScalar_eq ..
  have he : encd = if keptByPath T cfg kp S sel then v else redactAs T { cfg with enc := some f } v (classOf kp v) :=
    redactScalar_eq ..
  rw [hp, he]
  by_cases hk : keptByPath T cfg kp S sel = true
  · rw [if_pos hk, if_pos hk]; exact .inl rfl
  · rw [if_neg hk, if_neg hk]; exact redactAs_enc T cfg f (classOf_fits kp v)

end Anonymongo
