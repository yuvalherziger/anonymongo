/-
  Props/C05b.lean — PROPERTY C05 for whole trees: the verdict per leaf, `Ctx.TypeOK`, is read off the verdict of C01
  (`Ctx.LeafOK`, `Ctx.leafOK_run`, Props/C01b) with `C05_placeholder_member`.
-/
import Anonymongo.Props.C01b
import Anonymongo.Props.C05
namespace Anonymongo

/-- membership of a (replaced) leaf in a class, as the property words it -/
def Spec.inClass : LeafClass → J → Bool
  | .date, .str t => Spec.isISOInstant t
  | .oid, .str t => Spec.isObjectId t
  | .b64, .str t => Spec.isBase64 t
  | .email, .str t => isEmail t
  | .string, .str _ => true
  | .number, .num l => l == "0".toList
  | .bool, .bool b => b == false
  | _, _ => false

/-- a leaf of a secret class has the JSON kind of that class -/
theorem classOf_kind (cfg : Cfg) (kp : List Str) (a : J) (hs : secretClass cfg (classOf kp a) = true) :
    (∃ x, a = .str x ∧ classOf kp a ≠ .number ∧ classOf kp a ≠ .bool) ∨
    (∃ l, a = .num l ∧ classOf kp a = .number) ∨ (∃ b, a = .bool b ∧ classOf kp a = .bool) := by
  have fa := classOf_fits kp a
  generalize classOf kp a = cl at fa hs ⊢
  cases fa with
  | subType | null | arr | obj => exact Bool.noConfusion hs
  | date | oid | b64 | email | string => exact .inl ⟨_, rfl, nofun, nofun⟩
  | number => exact .inr (.inl ⟨_, rfl, rfl⟩)
  | bool => exact .inr (.inr ⟨_, rfl, rfl⟩)

/-- **the placeholder of a secret class is a well-formed member of that class and has the JSON kind of the leaf** (regenerated
    constants; the replacement text stands for plain strings only, and any text is a member of that class) -/
theorem C05_placeholder_member (cfg : Cfg) (kp : List Str) (a : J) (hs : secretClass cfg (classOf kp a) = true) :
    Spec.inClass (classOf kp a) (placeholderOf Generated.tables cfg a (classOf kp a)) = true ∧
    shapeEq a (placeholderOf Generated.tables cfg a (classOf kp a)) = true := by
  obtain ⟨hiso, hoid, hb64, hmail, hnum, hbool, _⟩ := C05_valid
  have fa := classOf_fits kp a
  generalize classOf kp a = cl at fa hs ⊢
  cases fa with
  | subType | null | arr | obj => exact Bool.noConfusion hs
  | date s => exact ⟨hiso, rfl⟩
  | oid s => exact ⟨hoid, rfl⟩
  | b64 s => exact ⟨hb64, rfl⟩
  | email s => exact ⟨hmail, rfl⟩
  | string s => exact ⟨rfl, rfl⟩
  | number l =>
    rw [show placeholderOf Generated.tables cfg (.num l) .number = .num Generated.tables.number from if_pos hs]
    exact ⟨by simp [Spec.inClass, hnum], rfl⟩
  | bool b =>
    rw [show placeholderOf Generated.tables cfg (.bool b) .bool = .bool Generated.tables.boolean from if_pos hs]
    exact ⟨by simp [Spec.inClass, hbool], rfl⟩

namespace Ctx

def TypeOK (c : Ctx) (s : St) (a b : J) : Prop :=
  b = a ∨ (∃ x, b = .str (c.H x)) ∨
  ∃ kp, PathOf s kp ∧ b = placeholderOf c.T c.cfg a (classOf kp a) ∧
    Spec.inClass (classOf kp a) b = true ∧ shapeEq a b = true

/-- audited for C05: a leaf that C01 finds replaced by a class placeholder is of a secret class (`C05_placeholder_member`) -/
theorem typeOK_of_leafOK (c : Ctx) (hT : c.T = Generated.tables) (s : St) (a b : J) (h : LeafOK c s a b) : TypeOK c s a b := by
  rcases h with ⟨x, rfl⟩ | ⟨kp, hp, hs, rfl⟩ | ⟨rfl, _⟩
  · exact Or.inr (Or.inl ⟨x, rfl⟩)
  · have := C05_placeholder_member c.cfg kp a hs
    unfold TypeOK
    rw [hT]
    exact Or.inr (Or.inr ⟨kp, hp, rfl, this.1, this.2⟩)
  · exact Or.inl rfl

end Ctx

/-- **C05, whole trees**: placeholder mode, full-redaction mode, field-name redaction off, the tables REGENERATED
    from the binary.  From every walker state that satisfies `Inv` (Props/C01b), for EVERY tree without duplicate
    sibling keys: each scalar leaf of the output is the input leaf itself, a pseudonym, or the placeholder of the
    input leaf's class — the class judged under the key path of that very position (`PathOf`: the accumulated path,
    the parent key alone in the array walker, the empty key in the stage walker) — and that placeholder is a
    well-formed member of the class (an ISO instant for a date, 24 hex digits for an ObjectId, canonical base64 for
    binary data, an e-mail shaped string for an e-mail, `0` / `false` for numbers / booleans) of the same JSON kind
    as the leaf it replaces.  So a replaced value never changes its JSON type and never lands in another class's
    placeholder, at any depth. -/
theorem C05_tree (c : Ctx) (hT : c.T = Generated.tables) (hre : c.cfg.re = none) (hrfn : c.rfn = false)
    (hplain : c.cfg.enc = none) (s : St) (hi : c.Inv s) (v : J) (hn : v.nodup = true) :
    c.Aud (c.TypeOK) (fun _ _ => True) s v (c.run s v) :=
  Ctx.aud_run c hrfn c.Inv (Ctx.inv_obj c hre) (fun s xs s' _ hf => Ctx.inv_arr c s xs s' hf)
    c.TypeOK (fun s a hi ha => Ctx.typeOK_of_leafOK c hT s a _ (Ctx.leafOK_run c hre hrfn hplain s a hi ha))
    (fun _ _ => True) (fun _ _ _ _ => trivial) (fun _ _ _ _ => trivial)
    s v hi hn

/-- non-vacuity: a date under `$date`, an ObjectId under `$oid`, an e-mail and a plain string in one filter, each landing in
    its own class's placeholder -/
example : let c : Ctx := ⟨Generated.tables, ⟨"R".toList, false, false, false, false, none, none⟩, false⟩
    J.beq (c.run .ZQ (.obj [("d".toList, .obj [("$date".toList, .str "2024-01-02T03:04:05Z".toList)]),
                            ("i".toList, .obj [("$oid".toList, .str "0123456789abcdef01234567".toList)]),
                            ("e".toList, .str "a@b.co".toList), ("s".toList, .str "x".toList)]))
      (.obj [("d".toList, .obj [("$date".toList, .str Generated.tables.isoDate)]),
             ("i".toList, .obj [("$oid".toList, .str Generated.tables.objectId)]),
             ("e".toList, .str Generated.tables.emailPH), ("s".toList, .str "R".toList)]) = true := by
  decide +kernel

end Anonymongo
