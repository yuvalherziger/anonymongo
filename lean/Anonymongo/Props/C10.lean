/-
  Props/C10.lean — PROPERTY C10, placeholder-equivalence at the level of whole trees:
  encrypt mode and placeholder mode produce outputs of the same structure (same keys, same order,
  same array lengths) that are leaf-wise EQUAL except where placeholder mode emits a string and
  encrypt mode emits the ciphertext of the INPUT string at that position (or the same placeholder
  when the encryption step fails).  Numbers, booleans, nulls, kept values, pseudonyms: identical.
  (`Ctx.run_flow`, Lemmas/TwoCfg, with the leaf theorem `C10_equiv_leaf` of Props/C09.)
-/
import Anonymongo.Lemmas.TwoCfg
import Anonymongo.Lemmas.LeafMode
import Anonymongo.Props.C09
namespace Anonymongo

/-- the leaf relation of C10: input leaf, placeholder-mode leaf, encrypt-mode leaf -/
def EncLeaf (f : Str → Option Str) (v o1 o2 : J) : Prop :=
  o2 = o1 ∨ ∃ s ph, v = .str s ∧ o1 = .str ph ∧ o2 = .str (match f s with | some c => c | none => ph)

namespace Ctx

theorem SameFlow.leafMode {c1 c2 : Ctx} (h : SameFlow c1 c2) (s : St) (v : J) : c1.leafMode s v = c2.leafMode s v := by
  cases s with
  | P | PVal | Facet | FacetStage | SubVal | AElem | QVal =>
    simp only [Ctx.leafMode, pScalarMode, pValScalarMode, subValScalarMode, aElemScalarMode, qValScalarMode, genericMode, nsMode,
      dollarMode, h.T, h.rfn, h.re, h.ns]
  | NsMember => cases v <;> rfl
  | _ => rfl

end Ctx

/-- **C10 (placeholder-equivalent, whole walk)**: from every walker state, for every tree without
    duplicate sibling keys, the placeholder-mode output and the encrypt-mode output have the structure of the input
    and their leaves are related by `EncLeaf` (field-name redaction off; numbers / booleans / IPs / namespaces
    flags, selective mode and replacement text arbitrary but the same in both runs) -/
theorem C10_equiv_walk (T : Tables) (cfg : Cfg) (f : Str → Option Str) (s : St) (v : J) (hn : v.nodup = true) :
    Ctx.Rel3 (EncLeaf f) v
      (Ctx.run ⟨T, { cfg with enc := none }, false⟩ s v)
      (Ctx.run ⟨T, { cfg with enc := some f }, false⟩ s v) := by
  have hflow : Ctx.SameFlow ⟨T, { cfg with enc := none }, false⟩ ⟨T, { cfg with enc := some f }, false⟩ :=
    ⟨rfl, rfl, rfl, rfl, rfl⟩
  have leafOK : ∀ s v, v.isScalar = true → EncLeaf f v
      (Ctx.run ⟨T, { cfg with enc := none }, false⟩ s v) (Ctx.run ⟨T, { cfg with enc := some f }, false⟩ s v) := by
    intro s v hv
    rw [Ctx.run_scalar _ s v hv, Ctx.run_scalar _ s v hv, Ctx.SameFlow.leafMode hflow s v]
    cases hm : Ctx.leafMode ⟨T, { cfg with enc := some f }, false⟩ s v with
    | keep => exact Or.inl rfl
    | hash x => exact Or.inl (by simp [Ctx.H])
    | scalar kp S sel =>
      simp only [Ctx.applyMode_scalar, Ctx.scalar]
      exact C10_equiv_leaf T cfg f kp v S sel
  apply Ctx.run_flow _ _ hflow.nodeFlow rfl (EncLeaf f) leafOK (fun v _ => Or.inl rfl) _ s v hn
  -- the namespace-document case cannot arise: both configurations have the same namespace flag
  intro s kvs h1 h2
  exact (hflow.no_nsDoc s kvs _ h1 h2).elim

/-- for an object in a zone: both outputs are objects, member-wise related (same keys, same order) -/
theorem C10_same_keys (T : Tables) (cfg : Cfg) (f : Str → Option Str) (hi hb : Bool) (k : Str) (kvs : List (Str × J))
    (hn : (J.obj kvs).nodup = true) :
    ∃ k1 k2, Ctx.run ⟨T, { cfg with enc := none }, false⟩ (Ctx.zoneState hi hb k) (.obj kvs) = .obj k1 ∧
             Ctx.run ⟨T, { cfg with enc := some f }, false⟩ (Ctx.zoneState hi hb k) (.obj kvs) = .obj k2 ∧
             Ctx.Rel3KVs (EncLeaf f) kvs k1 k2 := by
  have := C10_equiv_walk T cfg f (Ctx.zoneState hi hb k) (.obj kvs) hn
  simpa [Ctx.Rel3] using this

end Anonymongo
