/-
  Props/C09c.lean — PROPERTIES C09 / C10 / C11 with the library parameters INSTANTIATED:
  the deterministic AEAD is the RFC 5297 SIV construction over AES-256 as Tink computes it
  (Model/Siv.lean, Model/Aes.lean: byte-identical ciphertexts, corresponded on every run), and the
  codec is encoding/base64 StdEncoding (Model/Base64.lean).  The DAEAD laws and the codec law are
  theorems (Lemmas/Siv.lean, Lemmas/Base64.lean) — no assumption about the libraries' algebra is
  left; what remains assumed is that Tink / encoding/base64 compute these functions (correspondence).
-/
import Anonymongo.Lemmas.Siv
import Anonymongo.Lemmas.Base64
import Anonymongo.Props.C09
import Anonymongo.Props.C11
namespace Anonymongo

/-- encoding/base64 StdEncoding as an instance of the codec interface, law proved -/
def Siv.stdB64 : B64 where
  enc := Base64.enc
  dec := Base64.dec
  dec_enc := Base64.dec_enc

/-- the encryption function of `--encrypt` under key material `key`, concretely -/
def aesEncFn (key : Bytes) : Str → Option Str := encFn Siv.aesDaead Siv.stdB64 key

/-- the ciphertext leaf, spelled out: base64 (SIV ‖ CTR(plaintext bytes)) -/
theorem aesEncFn_eq (key : Bytes) (hk : key.length = 64) (s : Str) :
    aesEncFn key s = some (Base64.enc (Siv.aesEnc key (utf8 s))) := by
  simp [aesEncFn, encFn, encryptApi, hk, Siv.aesDaead, Siv.stdB64]

/-- **C09 (round trip, concrete)**: for EVERY 64-byte key and every string (any length incl. 0, any
    Unicode content) the leaf written in encrypt mode, handed to the `decrypt` command with the same
    key file, prints exactly the original bytes -/
theorem C09_roundtrip_aes (key : Bytes) (hk : key.length = 64) (s ph : Str) (cfg : Cfg)
    (he : cfg.enc = some (aesEncFn key)) :
    decryptCmd Siv.aesDaead Siv.stdB64 key (redactString cfg s ph) = .ok (utf8 s) :=
  C09_roundtrip Siv.aesDaead Siv.stdB64 key hk s ph cfg he

/-- **C09 (never a wrong plaintext, concrete)**: if `decrypt` accepts a value under a key and prints
    `pt`, the value's bytes ARE `SIV-encrypt key pt` — a corrupted, truncated or foreign-key
    ciphertext can only be accepted if it is bit-for-bit a genuine encryption under this key -/
theorem C09_tamper_aes (key : Bytes) (value : Str) (pt raw : Bytes)
    (hraw : Base64.dec value = some raw) (h : decryptCmd Siv.aesDaead Siv.stdB64 key value = .ok pt) :
    raw = Siv.aesEnc key pt :=
  C09_tamper Siv.aesDaead Siv.stdB64 key value pt raw hraw h

/-- a ciphertext shorter than the 16-byte synthetic IV is always refused -/
theorem C09_short_refused (key : Bytes) (value : Str) (raw : Bytes)
    (hraw : Base64.dec value = some raw) (hs : raw.length < 16) :
    decryptCmd Siv.aesDaead Siv.stdB64 key value = .badCiphertext := by
  have hd : Siv.aesDec key raw = none := by
    simp [Siv.aesDec, Siv.dec, Siv.decWith, hs]
  simp only [decryptCmd, Siv.stdB64, hraw, decryptApi, Siv.aesDaead, hd, ite_self]

/-- **C10 (injective, concrete)**: equal ciphertext leaves under one key mean equal plaintext bytes -/
theorem C10_inj_aes (key : Bytes) (hk : key.length = 64) (s t : Str) :
    aesEncFn key s = aesEncFn key t → utf8 s = utf8 t :=
  C10_inj Siv.aesDaead Siv.stdB64 key hk s t

/-- ciphertext leaves have the length the construction dictates (16-byte SIV + the plaintext bytes, base64) -/
theorem C09_leaf_length (key : Bytes) (s : Str) :
    (Base64.enc (Siv.aesEnc key (utf8 s))).length = 4 * (((utf8 s).length + 16 + 2) / 3) := by
  rw [Base64.enc, Base64.encNat_length, List.length_map, Siv.aesEnc_length]

/-- **the ciphertext stands verbatim in the output line**: the serialiser escapes nothing in base64 text (no `\u002b`
    for `+`, no `\/`), so what is between the quotes is exactly what `decrypt` expects on its command line -/
theorem C09_leaf_verbatim (key : Bytes) (s : Str) :
    printStr (Base64.enc (Siv.aesEnc key (utf8 s))) = [34] ++ Base64.encBytes (Siv.aesEnc key (utf8 s)) ++ [34] := by
  unfold printStr Base64.enc Base64.encBytes Base64.enc
  rw [Base64.flatMap_escChar_encNat]

/-- file bytes ↔ base64 text: Go's `string(bytes)` / `[]byte(string)` on ASCII text -/
def keyCodec : KeyFile.B64 where
  enc b := (Base64.enc b).map fun c => c.toNat.toUInt8
  dec bs := Base64.dec (bs.map fun b => Char.ofNat b.toNat)
  dec_enc b := by
    have h : ((Base64.enc b).map fun c => c.toNat.toUInt8).map (fun b => Char.ofNat b.toNat) = Base64.enc b := by
      rw [List.map_map]
      conv => rhs; rw [← List.map_id (Base64.enc b)]
      apply List.map_congr_left
      intro c hc
      exact Base64.ascii_roundtrip b c hc
    simp only [h, Base64.dec_enc]

/-- **C11 (create + read back, concrete codec)** -/
theorem C11_create_std (fresh : Bytes) (h : fresh.length = 64) :
    KeyFile.step keyCodec fresh .absent = (.file (keyCodec.enc fresh), .proceed fresh) ∧
    KeyFile.readKey keyCodec (keyCodec.enc fresh) = some fresh :=
  KeyFile.C11_create keyCodec fresh h

/-- the stored key file is exactly 88 bytes (64 bytes in base64, padded) -/
theorem C11_file_size (fresh : Bytes) (h : fresh.length = 64) : (keyCodec.enc fresh).length = 88 := by
  simp [keyCodec, Base64.enc, Base64.encNat_length, h]

/-- **C11 (sequences, concrete codec)** -/
theorem C11_seq_std (fresh : Bytes) (h : fresh.length = 64) (more : List Bytes) :
    (KeyFile.runs keyCodec .absent (fresh :: more)).1 = .file (keyCodec.enc fresh) ∧
    ∀ r ∈ (KeyFile.runs keyCodec .absent (fresh :: more)).2, r.key? = some fresh :=
  KeyFile.C11_seq keyCodec fresh h more

end Anonymongo
#print axioms Anonymongo.C09_roundtrip_aes
#print axioms Anonymongo.C09_tamper_aes
#print axioms Anonymongo.C11_seq_std
