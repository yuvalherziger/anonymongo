/-
  Props/C16b.lean — PROPERTY C16, the time window, proved about the function TRANSLATED from the source
  (`Generated/Window.lean`: `GetStartAndEndDates` of reader.go, re-translated by tools/extract on every run).

  `C16_window` (Props/C16) is about the hand-written `Atlas.window`; here the same statements — and the
  one-sided cases the validation chain excludes — are proved about the source's own text, and
  `C16_window_model` shows that the model's function IS the source's wherever `main` can call it.
-/
import Anonymongo.Generated.Window
import Anonymongo.Model.Atlas
namespace Anonymongo
open Generated

/-- **no dates given**: the last seven days, ending at the clock read; start before end -/
theorem C16_window_default (now : Int) :
    getStartAndEndDates now 0 0 = (now - 604800, now) ∧ (getStartAndEndDates now 0 0).1 < (getStartAndEndDates now 0 0).2 := by
  have h : getStartAndEndDates now 0 0 = (now - 604800, now) := by simp [getStartAndEndDates]
  refine ⟨h, ?_⟩
  rw [h]; show now - 604800 < now; omega

/-- **both dates given**: exactly what was given, whatever the clock says -/
theorem C16_window_given (now s e : Int) (hs : s ≠ 0) (he : e ≠ 0) : getStartAndEndDates now s e = (s, e) := by
  simp [getStartAndEndDates, hs, he]

/-- one date only (refused by the validation chain before this function is reached — `Cli.C18_source_exact`, Props/C18b;
    stated for completeness):
    seven days from the given end, or up to seven days after the given start; never the clock -/
theorem C16_window_one_sided (now s e : Int) :
    (e ≠ 0 → getStartAndEndDates now 0 e = (e - 604800, e)) ∧
    (s ≠ 0 → getStartAndEndDates now s 0 = (s, s + 604800)) := by
  constructor
  · intro he; simp [getStartAndEndDates, he]
  · intro hs; simp [getStartAndEndDates, hs]

/-- the window never depends on the clock unless both dates are absent -/
theorem C16_window_clock_free (now now' s e : Int) (h : s ≠ 0 ∨ e ≠ 0) :
    getStartAndEndDates now s e = getStartAndEndDates now' s e := by
  rcases h with h | h <;> simp [getStartAndEndDates, h]

/-- **the model's window is the source's**: for the calls `main` can make (both dates or neither — `Cli.C18_source_exact`, Props/C18b),
    with a clock later than the first week of 1970 -/
theorem C16_window_model (now s e : Nat) (hnow : 604800 ≤ now) (hboth : (s = 0 ∧ e = 0) ∨ (s ≠ 0 ∧ e ≠ 0)) :
    getStartAndEndDates (now : Int) (s : Int) (e : Int) =
      ((((Atlas.window now s e).1 : Nat) : Int), (((Atlas.window now s e).2 : Nat) : Int)) := by
  rcases hboth with ⟨rfl, rfl⟩ | ⟨hs, he⟩
  · have h := (C16_window_default (now : Int)).1
    simp only [Int.natCast_zero]
    rw [h]
    simp only [Atlas.window, Bool.and_self, if_true, decide_true]
    rw [Int.ofNat_sub hnow]
    rfl
  · have hs' : (s : Int) ≠ 0 := by exact_mod_cast hs
    have he' : (e : Int) ≠ 0 := by exact_mod_cast he
    rw [C16_window_given now s e hs' he']
    simp [Atlas.window, hs]

example : getStartAndEndDates 1700000000 0 0 = (1699395200, 1700000000) ∧ getStartAndEndDates 5 1 2 = (1, 2) := by decide

end Anonymongo
