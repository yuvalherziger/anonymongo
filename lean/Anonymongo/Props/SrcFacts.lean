/-
  Props/SrcFacts.lean — umbrella over the source-fact obligations (Props/Facts/*): statements that tie the
  hand-written model to facts REGENERATED on every run — from the Go source (Generated/Facts.lean, produced by
  tools/extract with go/ast) and, for Facts/Regex, from the running binary (Generated/Tables.lean).  One module per
  obligation: if the source drops a dispatch key, renames a gate literal, re-wires a flag or uses the Atlas private key
  in a new way, that obligation's module stops building and only the properties that list it are affected.
-/
import Anonymongo.Props.Facts.Dispatch
import Anonymongo.Props.Facts.CmdKeys
import Anonymongo.Props.Facts.Gate
import Anonymongo.Props.Facts.Priv
import Anonymongo.Props.Facts.Wiring
import Anonymongo.Props.Facts.Globals
import Anonymongo.Props.Facts.Writes
import Anonymongo.Props.Facts.Mapping
import Anonymongo.Props.Facts.Inits
import Anonymongo.Props.Facts.Footprint
import Anonymongo.Props.Facts.AtlasReq
import Anonymongo.Props.Facts.Vocabulary
import Anonymongo.Props.Facts.Regex
import Anonymongo.Props.Facts.Cleanup
