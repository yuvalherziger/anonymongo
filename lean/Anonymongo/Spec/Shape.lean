/-
  Spec/Shape.lean — what "the same JSON shape" means (C03): same keys in the same order,
  same array lengths, every leaf keeps its JSON type.  Decidable, by mutual recursion.
-/
import Anonymongo.Lemmas.Assoc
namespace Anonymongo

mutual
def shapeEq : J → J → Bool
  | .null, .null => true
  | .bool _, .bool _ => true
  | .num _, .num _ => true
  | .str _, .str _ => true
  | .arr a, .arr b => shapeEqList a b
  | .obj a, .obj b => shapeEqKVs a b
  | _, _ => false
def shapeEqList : List J → List J → Bool
  | [], [] => true
  | x :: xs, y :: ys => shapeEq x y && shapeEqList xs ys
  | _, _ => false
def shapeEqKVs : List (Str × J) → List (Str × J) → Bool
  | [], [] => true
  | (k, x) :: xs, (k', y) :: ys => k == k' && shapeEq x y && shapeEqKVs xs ys
  | _, _ => false
end

mutual
/-- no object anywhere in the tree has two members with the same key -/
def J.nodup : J → Bool
  | .obj kvs => nodupKeys (keysOf kvs) && nodupKVs kvs
  | .arr xs => nodupList xs
  | _ => true
def nodupList : List J → Bool
  | [] => true
  | x :: xs => x.nodup && nodupList xs
def nodupKVs : List (Str × J) → Bool
  | [] => true
  | (_, v) :: rest => v.nodup && nodupKVs rest
end

mutual
theorem shapeEq_refl : ∀ v, shapeEq v v = true
  | .null => by simp [shapeEq]
  | .bool _ => by simp [shapeEq]
  | .num _ => by simp [shapeEq]
  | .str _ => by simp [shapeEq]
  | .arr xs => by simp [shapeEq, shapeEqList_refl xs]
  | .obj kvs => by simp [shapeEq, shapeEqKVs_refl kvs]
theorem shapeEqList_refl : ∀ xs, shapeEqList xs xs = true
  | [] => by simp [shapeEqList]
  | x :: xs => by simp [shapeEqList, shapeEq_refl x, shapeEqList_refl xs]
theorem shapeEqKVs_refl : ∀ kvs, shapeEqKVs kvs kvs = true
  | [] => by simp [shapeEqKVs]
  | (k, v) :: rest => by simp [shapeEqKVs, shapeEq_refl v, shapeEqKVs_refl rest]
end

end Anonymongo
