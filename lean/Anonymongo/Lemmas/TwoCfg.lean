/-
  Lemmas/TwoCfg.lean — the same input walked under two configurations that answer every container with the same
  action (`NodeFlow`; it allows one difference, a namespace document that configuration 1 copies and configuration 2
  walks member by member): with field-name redaction off the two outputs have the input's structure and their leaves
  are related by whatever relates the two scalar redactions (`run_flow`).  Configurations that agree on everything
  the control flow looks at (`SameFlow`: tables, field-name mode, selective predicate, namespace flag, replacement
  text) are the case of C10 (encrypt vs placeholder); the namespace flag off vs on is the case of C12 (Props/C12b).
-/
import Anonymongo.Lemmas.RunInd
import Anonymongo.Lemmas.Shape
namespace Anonymongo
namespace Ctx

structure SameFlow (c1 c2 : Ctx) : Prop where
  T : c1.T = c2.T
  rfn : c1.rfn = c2.rfn
  re : c1.cfg.re = c2.cfg.re
  ns : c1.cfg.ns = c2.cfg.ns
  repl : c1.cfg.repl = c2.cfg.repl

theorem SameFlow.selArr {c1 c2 : Ctx} (h : SameFlow c1 c2) (xs : List J) : c1.selArr xs = c2.selArr xs := by
  simp [Ctx.selArr, h.re]

theorem SameFlow.node_obj {c1 c2 : Ctx} (h : SameFlow c1 c2) (s : St) (kvs : List (Str × J)) :
    c1.node s (.obj kvs) = c2.node s (.obj kvs) := by
  have hH : c1.H = c2.H := by funext x; simp [Ctx.H, h.repl]
  have hp : c1.pObj = c2.pObj := by funext S kp k x; simp [Ctx.pObj, Ctx.pKey, Ctx.augment, h.T, h.rfn, h.re, hH]
  have hq : c1.qObj = c2.qObj := by funext S pc kp k x; simp [Ctx.qObj, Ctx.qKey, Ctx.qOp, h.T, h.rfn, hH]
  have hs : c1.subKey = c2.subKey := by funext sm sk; simp [Ctx.subKey, h.rfn, hH]
  cases s <;> unfold node <;> simp only [hp, hq, hs, h.T, h.ns]

theorem SameFlow.node_arr {c1 c2 : Ctx} (h : SameFlow c1 c2) (s : St) (xs : List J) :
    c1.node s (.arr xs) = c2.node s (.arr xs) := by
  cases s <;> unfold node <;> simp only [h.selArr, h.rfn]

/-- the actions of the two configurations on a container: the same, or (`nsDoc`) copied by 1 and walked member-wise by 2 -/
inductive ActEq : Act → Act → Prop where
  | keep : ActEq .keep .keep
  | obj (f1 f2 : Str → J → Str × St) (h : ∀ k x, f1 k x = f2 k x) : ActEq (.obj f1) (.obj f2)
  | arr (s : St) : ActEq (.arr s) (.arr s)
  | nsDoc : ActEq .keep (.obj (fun k' _ => (k', St.NsMember)))   -- a namespace document: copied / member-wise pseudonymised

theorem ActEq.of_keep {a : Act} (h : ActEq .keep a) : a = .keep ∨ a = .obj (fun k' _ => (k', St.NsMember)) := by
  cases h
  · exact .inl rfl
  · exact .inr rfl

theorem ActEq.of_obj {f1 : Str → J → Str × St} {a : Act} (h : ActEq (.obj f1) a) : ∃ f2, a = .obj f2 ∧ ∀ k x, f1 k x = f2 k x := by
  cases h with
  | obj _ f2 hf => exact ⟨f2, rfl, hf⟩

theorem ActEq.of_arr {s : St} {a : Act} (h : ActEq (.arr s) a) : a = .arr s := by
  cases h; rfl

mutual
/-- input, output under configuration 1, output under configuration 2: same structure, leaves related by `L` -/
def Rel3 (L : J → J → J → Prop) : J → J → J → Prop
  | .obj kvs, o1, o2 => ∃ k1 k2, o1 = .obj k1 ∧ o2 = .obj k2 ∧ Rel3KVs L kvs k1 k2
  | .arr xs, o1, o2 => ∃ y1 y2, o1 = .arr y1 ∧ o2 = .arr y2 ∧ Rel3List L xs y1 y2
  | .null, o1, o2 => L .null o1 o2
  | .bool b, o1, o2 => L (.bool b) o1 o2
  | .num l, o1, o2 => L (.num l) o1 o2
  | .str s, o1, o2 => L (.str s) o1 o2
def Rel3KVs (L : J → J → J → Prop) : List (Str × J) → List (Str × J) → List (Str × J) → Prop
  | [], a, b => a = [] ∧ b = []
  | (k, v) :: rest, a, b => ∃ v1 v2 r1 r2, a = (k, v1) :: r1 ∧ b = (k, v2) :: r2 ∧ Rel3 L v v1 v2 ∧ Rel3KVs L rest r1 r2
def Rel3List (L : J → J → J → Prop) : List J → List J → List J → Prop
  | [], a, b => a = [] ∧ b = []
  | x :: xs, a, b => ∃ y1 y2 r1 r2, a = y1 :: r1 ∧ b = y2 :: r2 ∧ Rel3 L x y1 y2 ∧ Rel3List L xs r1 r2
end

theorem rel3_scalar {L : J → J → J → Prop} {v o1 o2 : J} (hv : v.isScalar = true) : Rel3 L v o1 o2 = L v o1 o2 := by
  cases v <;> first | (simp only [Rel3]; done) | cases hv

section Members
variable {L : J → J → J → Prop}

theorem rel3KVs_of_mem (g1 g2 : Str → J → J) :
    ∀ kvs, (∀ k v, (k, v) ∈ kvs → Rel3 L v (g1 k v) (g2 k v)) →
      Rel3KVs L kvs (kvs.map fun p => (p.1, g1 p.1 p.2)) (kvs.map fun p => (p.1, g2 p.1 p.2))
  | [], _ => by simp only [List.map_nil, Rel3KVs, and_self]
  | (k, v) :: rest, h => by
    simp only [List.map_cons, Rel3KVs]
    exact ⟨_, _, _, _, rfl, rfl, h k v (.head _), rel3KVs_of_mem g1 g2 rest fun k v hm => h k v (.tail _ hm)⟩

theorem rel3List_of_mem (g1 g2 : J → J) :
    ∀ xs, (∀ x, x ∈ xs → Rel3 L x (g1 x) (g2 x)) → Rel3List L xs (xs.map g1) (xs.map g2)
  | [], _ => by simp only [List.map_nil, Rel3List, and_self]
  | x :: xs, h => by
    simp only [List.map_cons, Rel3List]
    exact ⟨_, _, _, _, rfl, rfl, h x (.head _), rel3List_of_mem g1 g2 xs fun x hm => h x (.tail _ hm)⟩

end Members

theorem Rel3_refl (L : J → J → J → Prop) (hL : ∀ v, v.isScalar = true → L v v v) : ∀ v, Rel3 L v v v := by
  intro v
  induction v using J.induction with
  | scalar v hv => rw [rel3_scalar hv]; exact hL v hv
  | arr xs ih => simp only [Rel3]; exact ⟨_, _, rfl, rfl, by simpa using rel3List_of_mem id id xs ih⟩
  | obj kvs ih => simp only [Rel3]; exact ⟨_, _, rfl, rfl, by simpa using rel3KVs_of_mem (fun _ v => v) (fun _ v => v) kvs ih⟩

theorem Rel3KVs_refl (L : J → J → J → Prop) (hL : ∀ v, v.isScalar = true → L v v v) : ∀ kvs, Rel3KVs L kvs kvs kvs :=
  fun kvs => by simpa using rel3KVs_of_mem (fun _ v => v) (fun _ v => v) kvs fun _ v _ => Rel3_refl L hL v

theorem Rel3List_refl (L : J → J → J → Prop) (hL : ∀ v, v.isScalar = true → L v v v) : ∀ xs, Rel3List L xs xs xs :=
  fun xs => by simpa using rel3List_of_mem id id xs fun x _ => Rel3_refl L hL x

/-- the two configurations have the same field-name mode and answer every container with the same action, up to
    the namespace-document case -/
structure NodeFlow (c1 c2 : Ctx) : Prop where
  rfn : c1.rfn = c2.rfn
  obj : ∀ s kvs, ActEq (c1.node s (.obj kvs)) (c2.node s (.obj kvs))
  arr : ∀ s xs, ActEq (c1.node s (.arr xs)) (c2.node s (.arr xs))

theorem actEq_obj {c1 c2 : Ctx} {s : St} {kvs : List (Str × J)} (h : c1.node s (.obj kvs) = c2.node s (.obj kvs)) :
    ActEq (c1.node s (.obj kvs)) (c2.node s (.obj kvs)) := by
  rw [h]
  rcases node_obj_cases c2 s kvs with ⟨f, e⟩ | e <;> rw [e]
  · exact .obj f f fun _ _ => rfl
  · exact .keep

theorem actEq_arr {c1 c2 : Ctx} {s : St} {xs : List J} (h : c1.node s (.arr xs) = c2.node s (.arr xs)) :
    ActEq (c1.node s (.arr xs)) (c2.node s (.arr xs)) := by
  rw [h]
  rcases node_arr_cases c2 s xs with ⟨s', e⟩ | e <;> rw [e]
  · exact .arr s'
  · exact .keep

theorem SameFlow.nodeFlow {c1 c2 : Ctx} (h : SameFlow c1 c2) : NodeFlow c1 c2 :=
  ⟨h.rfn, fun s kvs => actEq_obj (h.node_obj s kvs), fun s xs => actEq_arr (h.node_arr s xs)⟩

/-- members of a namespace document: configuration 1 copies the document, configuration 2 walks its
    members in state `NsMember`, where only scalars are touched -/
theorem nsDoc_flow (c2 : Ctx) (L : J → J → J → Prop)
    (hNs : ∀ v, v.isScalar = true → L v v (c2.run .NsMember v)) (hrefl : ∀ v, v.isScalar = true → L v v v)
    (kvs : List (Str × J)) : Rel3KVs L kvs kvs (c2.runKVs (fun k' _ => (k', St.NsMember)) kvs) := by
  have := rel3KVs_of_mem (L := L) (fun _ v => v) (fun _ v => c2.run .NsMember v) kvs fun k v _ => by
    by_cases hv : v.isScalar = true
    · rw [rel3_scalar hv]; exact hNs v hv
    · rw [show c2.run .NsMember v = v by cases v <;> first | rfl | exact absurd rfl hv]
      exact Rel3_refl L hrefl v
  rwa [List.map_id' kvs, ← runKVs_eq_map c2 (fun k' _ => (k', St.NsMember))] at this

theorem rel3KVs_run {c1 c2 : Ctx} {L : J → J → J → Prop} {f1 f2 : Str → J → Str × St} (hf : ∀ k x, f1 k x = f2 k x)
    (hk : ∀ k x, (f1 k x).1 = k) (kvs : List (Str × J))
    (h : ∀ k v, (k, v) ∈ kvs → Rel3 L v (c1.run (f1 k v).2 v) (c2.run (f1 k v).2 v)) :
    Rel3KVs L kvs (c1.runKVs f1 kvs) (c2.runKVs f2 kvs) := by
  simp only [runKVs_eq_map, ← hf, hk]
  exact rel3KVs_of_mem (fun k v => c1.run (f1 k v).2 v) (fun k v => c2.run (f1 k v).2 v) kvs h

theorem rel3List_run {c1 c2 : Ctx} {L : J → J → J → Prop} {s : St} (xs : List J)
    (h : ∀ x, x ∈ xs → Rel3 L x (c1.run s x) (c2.run s x)) : Rel3List L xs (c1.runList s xs) (c2.runList s xs) := by
  rw [runList_eq_map, runList_eq_map]
  exact rel3List_of_mem _ _ xs h

/-- the lifting behind C10 (Props/C10) and the confinement half of C12 (Props/C12b) -/
theorem run_flow (c1 c2 : Ctx) (h : NodeFlow c1 c2) (hrfn : c1.rfn = false) (L : J → J → J → Prop)
    (hL : ∀ s v, v.isScalar = true → L v (c1.run s v) (c2.run s v)) (hrefl : ∀ v, v.isScalar = true → L v v v)
    (hNs : ∀ s kvs, c1.node s (.obj kvs) = .keep → c2.node s (.obj kvs) = .obj (fun k' _ => (k', St.NsMember)) →
      ∀ v, v.isScalar = true → L v v (c2.run .NsMember v)) :
    ∀ (s : St) (v : J), v.nodup = true → Rel3 L v (c1.run s v) (c2.run s v) := by
  intro s v
  refine run_induction_scalar c1 (M := fun s v o => v.nodup = true → Rel3 L v o (c2.run s v)) ?_ ?_ ?_ ?_ s v
  · intro s v hv _
    rw [rel3_scalar hv]; exact hL s v hv
  · intro s v hv h1 hn
    cases v with
    | obj kvs =>
      rcases (h1 ▸ h.obj s kvs).of_keep with h2 | h2
      · rw [run_of_keep c2 h2]; exact Rel3_refl L hrefl _
      · simp only [J.nodup, Bool.and_eq_true] at hn
        rw [run_of_obj c2 h2, fromPairs_runKVs c2 _ (fun _ _ => rfl) kvs hn.1]
        simp only [Rel3]
        exact ⟨_, _, rfl, rfl, nsDoc_flow c2 L (hNs s kvs h1 h2) hrefl kvs⟩
    | arr xs =>
      -- an array is copied or walked element by element (`node_arr_cases`), and `ActEq .keep` excludes the latter
      rcases node_arr_cases c2 s xs with ⟨s', h2⟩ | h2
      · have ha := h.arr s xs
        rw [h1, h2] at ha; cases ha
      · rw [run_of_keep c2 h2]; exact Rel3_refl L hrefl _
    | _ => cases hv
  · intro s kvs f1 h1 ih hn
    simp only [J.nodup, Bool.and_eq_true] at hn
    obtain ⟨f2, h2, hf⟩ := (h1 ▸ h.obj s kvs).of_obj
    have hk1 := keys_of_noRfn c1 hrfn s _ f1 h1
    rw [run_of_obj c2 h2, fromPairs_runKVs c1 f1 hk1 kvs hn.1,
      fromPairs_runKVs c2 f2 (fun k x => hf k x ▸ hk1 k x) kvs hn.1]
    simp only [Rel3]
    exact ⟨_, _, rfl, rfl, rel3KVs_run hf hk1 kvs fun k v hm => ih k v hm (nodupKVs_mem hn.2 hm)⟩
  · intro s xs s' h1 ih hn
    rw [run_of_arr c2 (h1 ▸ h.arr s xs).of_arr]
    simp only [Rel3]
    exact ⟨_, _, rfl, rfl, rel3List_run xs fun x hm => ih x hm (nodupList_mem hn hm)⟩

theorem runKVs_flow (c1 c2 : Ctx) (h : NodeFlow c1 c2) (hrfn : c1.rfn = false) (L : J → J → J → Prop)
    (hL : ∀ s v, v.isScalar = true → L v (c1.run s v) (c2.run s v)) (hrefl : ∀ v, v.isScalar = true → L v v v)
    (hNs : ∀ s kvs, c1.node s (.obj kvs) = .keep → c2.node s (.obj kvs) = .obj (fun k' _ => (k', St.NsMember)) →
      ∀ v, v.isScalar = true → L v v (c2.run .NsMember v))
    (f1 f2 : Str → J → Str × St) (hf : ∀ k x, f1 k x = f2 k x) (hk1 : ∀ k x, (f1 k x).1 = k) (hk2 : ∀ k x, (f2 k x).1 = k) :
    ∀ kvs, nodupKVs kvs = true →
      Rel3KVs L kvs (c1.runKVs f1 kvs) (c2.runKVs f2 kvs) ∧ keysOf (c1.runKVs f1 kvs) = keysOf kvs ∧ keysOf (c2.runKVs f2 kvs) = keysOf kvs := fun kvs hn =>
  ⟨rel3KVs_run hf hk1 kvs fun _ v hm => run_flow c1 c2 h hrfn L hL hrefl hNs _ v (nodupKVs_mem hn hm),
    keysOf_runKVs c1 f1 hk1 kvs, keysOf_runKVs c2 f2 hk2 kvs⟩

theorem runList_flow (c1 c2 : Ctx) (h : NodeFlow c1 c2) (hrfn : c1.rfn = false) (L : J → J → J → Prop)
    (hL : ∀ s v, v.isScalar = true → L v (c1.run s v) (c2.run s v)) (hrefl : ∀ v, v.isScalar = true → L v v v)
    (hNs : ∀ s kvs, c1.node s (.obj kvs) = .keep → c2.node s (.obj kvs) = .obj (fun k' _ => (k', St.NsMember)) →
      ∀ v, v.isScalar = true → L v v (c2.run .NsMember v)) :
    ∀ (s : St) (xs : List J), nodupList xs = true → Rel3List L xs (c1.runList s xs) (c2.runList s xs) := fun s xs hn =>
  rel3List_run xs fun x hm => run_flow c1 c2 h hrfn L hL hrefl hNs s x (nodupList_mem hn hm)

/-- with the same namespace flag the "copied vs member-wise" case cannot arise -/
theorem SameFlow.no_nsDoc {c1 c2 : Ctx} (h : SameFlow c1 c2) (s : St) (kvs : List (Str × J)) (f : Str → J → Str × St)
    (h1 : c1.node s (.obj kvs) = .keep) (h2 : c2.node s (.obj kvs) = .obj f) : False := by
  rw [h.node_obj, h2] at h1; cases h1

end Ctx
end Anonymongo
