/-
  Lemmas/Esc.lean — string literals, one character at a time.
  `parseStrBody` is the iteration of `strChar`, which reads one (escaped) character
  (`parseStrBody_cons`).  `Esc c bs`: the bytes `bs` are a spelling of `c` that `strChar` reads back as
  `c` — a one-letter escape, `\uXXXX`, or the UTF-8 bytes of `c`.  `escChar` (Go's `appendString` with
  HTML escaping) always produces one (`escChar_esc`); that its output holds no control byte, is not
  empty and is undone by one step of the parser are then facts about `Esc`, each with one case per
  kind of spelling; `parseStrBody_print` iterates the step over a whole string.
-/
import Anonymongo.Lemmas.Utf8
namespace Anonymongo

/-- the one-letter escapes `\e` of `parseStrBody`, and what they stand for -/
def unesc (e : UInt8) : Option Char :=
  if e = 34 then some '"' else if e = 92 then some '\\' else if e = 47 then some '/'
  else if e = 98 then some (Char.ofNat 8) else if e = 102 then some (Char.ofNat 12)
  else if e = 110 then some '\n' else if e = 114 then some '\r' else if e = 116 then some '\t' else none

/-- `parseStrBody`'s way of putting a decoded character in front of the rest of the body -/
abbrev consTo (c : Char) (o : Option (Str × Bytes)) : Option (Str × Bytes) := o.map fun (s, r) => (c :: s, r)

theorem bind_ite {α β} (C : Prop) [Decidable C] (a b : Option α) (f : α → Option β) :
    (if C then a else b).bind f = if C then a.bind f else b.bind f :=
  apply_ite (·.bind f) C a b

/- Both sides are the same chain of tests on `e`; `bind_ite` pushes the `bind` to the leaves. -/
theorem parseStrBody_esc (f : Nat) (e : UInt8) (t : Bytes) (h : e ≠ 117) :
    parseStrBody (f + 1) (92 :: e :: t) = (unesc e).bind fun c => consTo c (parseStrBody f t) := by
  simp +decide only [parseStrBody, unesc, h, if_false, if_true, bind_ite, Option.bind_some, Option.bind_none]

/-- after `\uXXXX` with a surrogate value `rr`: a pair with a following low surrogate, else U+FFFD -/
def surrogate (rr : Nat) (r1 : Bytes) : Char × Bytes :=
  match r1 with
  | 92 :: 117 :: r2 =>
    match getu4 r2 with
    | some (rr1, r3) =>
      if rr < 0xDC00 && 0xDC00 ≤ rr1 && rr1 < 0xE000 then
        (Char.ofNat ((rr - 0xD800) * 1024 + (rr1 - 0xDC00) + 0x10000), r3)
      else (replacementChar, r1)
    | none => (replacementChar, r1)
  | _ => (replacementChar, r1)

/-- one character of a string body whose first byte `b` is not the closing quote, and what is left -/
def strChar (b : UInt8) (rest : Bytes) : Option (Char × Bytes) :=
  if b < 0x20 then none
  else if b = 92 then
    match rest with
    | [] => none
    | e :: rest' =>
      if e = 117 then
        (getu4 rest').map fun (rr, r1) => if 0xD800 ≤ rr && rr < 0xE000 then surrogate rr r1 else (Char.ofNat rr, r1)
      else (unesc e).map (·, rest')
  else some (decodeRune b rest)

theorem parseStrBody_cons (f : Nat) (b : UInt8) (rest : Bytes) :
    parseStrBody (f + 1) (b :: rest) =
      if b = 34 then some ([], rest) else (strChar b rest).bind fun p => consTo p.1 (parseStrBody f p.2) := by
  by_cases h34 : b = 34; · simp only [parseStrBody, h34, if_true]
  rw [if_neg h34]
  by_cases hlo : b < 0x20; · simp only [parseStrBody, strChar, h34, hlo, if_true, if_false, Option.bind_none]
  by_cases h92 : b = 92
  · subst h92
    match rest with
    | [] => simp only [parseStrBody, strChar, h34, hlo, if_true, if_false, Option.bind_none]
    | e :: rest' =>
      by_cases e9 : e = 117
      · subst e9
        simp +decide only [parseStrBody, strChar, if_true, if_false]
        cases getu4 rest' with
        | none => rfl
        | some g =>
          obtain ⟨rr, r1⟩ := g
          simp only [Option.map_some, Option.bind_some]
          split
          · -- a surrogate: the parser's exits (the pair, or U+FFFD in three cases) are those of `surrogate`
            unfold surrogate
            split
            · rename_i r2
              cases hg2 : getu4 r2 with
              | none => simp only [hg2]
              | some g2 =>
                obtain ⟨rr1, r3⟩ := g2
                simp only [hg2]
                by_cases hc : (decide (rr < 0xDC00) && decide (0xDC00 ≤ rr1) && decide (rr1 < 0xE000)) = true
                · simp only [hc, if_true]
                · simp only [hc, Bool.false_eq_true, if_false]
            · simp only
          · rfl
      · rw [parseStrBody_esc f e rest' e9]
        simp only [strChar, hlo, e9, if_true, if_false]
        cases unesc e <;> rfl
  · simp only [parseStrBody, strChar, h34, hlo, h92, if_false, Option.bind_some]

/-- below 0x20, and at `u`, every test of `unesc` fails -/
theorem unesc_ge (e : UInt8) (c : Char) (h : unesc e = some c) : 0x20 ≤ e ∧ e ≠ 117 := by
  refine ⟨UInt8.not_lt.mp fun hlt => ?_, fun e9 => ?_⟩
  · have := UInt8.lt_iff_toNat_lt.mp hlt
    have hn : unesc e = none := by unfold unesc; repeat rw [if_neg (by rintro rfl; simp at this)]
    rw [hn] at h; cases h
  · rw [e9, show unesc 117 = none by decide] at h; cases h

/-- `n < 0x10000` in four lower-case hex digits -/
def hex4 (n : Nat) : Bytes :=
  [hexLower (n / 4096), hexLower (n / 256 % 16), hexLower (n / 16 % 16), hexLower (n % 16)]

theorem hexVal_hexLower : ∀ k, k < 16 → hexVal (hexLower k) = some k := by decide

theorem hexLower_ge : ∀ k, k < 16 → 0x20 ≤ hexLower k := by decide

theorem getu4_hex4 (n : Nat) (h : n < 0x10000) (t : Bytes) : getu4 (hex4 n ++ t) = some (n, t) := by
  have e : n / 4096 * 4096 + n / 256 % 16 * 256 + n / 16 % 16 * 16 + n % 16 = n := by omega
  have m := fun k => Nat.mod_lt k (show 0 < 16 by decide)
  simp only [hex4, List.cons_append, List.nil_append, getu4, hexVal_hexLower (n / 4096) (Nat.div_lt_of_lt_mul h),
    hexVal_hexLower _ (m (n / 256)), hexVal_hexLower _ (m (n / 16)), hexVal_hexLower _ (m n), e]

/-- the spellings of `c` that `parseStrBody` reads back as `c`: `\e`; `\uXXXX` for `c` below the
    surrogate range (a value from U+D800 to U+DFFF is read as half of a pair; U+E000 … U+FFFF would be read
    back as well, but `escChar` writes only `\u00XX`, `\u2028`, `\u2029` this way); or the UTF-8 bytes of
    `c` unless `c` is a quote, a backslash or a control character -/
inductive Esc (c : Char) : Bytes → Prop
  | short (e : UInt8) : unesc e = some c → Esc c [92, e]
  | hex : c.toNat < 0xD800 → Esc c (92 :: 117 :: hex4 c.toNat)
  | raw : 0x20 ≤ c.toNat → c.toNat ≠ 34 → c.toNat ≠ 92 → Esc c (utf8Enc c)

theorem char_of_toNat (c : Char) (n : Nat) (h : c.toNat = n) : c = Char.ofNat n := by
  rw [← h, Char.ofNat_toNat]

theorem escChar_esc (c : Char) : Esc c (escChar c) := by
  unfold escChar
  conv => zeta
  refine iteInduction (fun h => h ▸ .short 92 rfl) fun h1 => ?_
  refine iteInduction (fun h => h ▸ .short 34 rfl) fun h2 => ?_
  refine iteInduction (fun h => char_of_toNat c 8 h ▸ .short 98 rfl) fun _ => ?_
  refine iteInduction (fun h => char_of_toNat c 12 h ▸ .short 102 rfl) fun _ => ?_
  refine iteInduction (fun h => char_of_toNat c 10 h ▸ .short 110 rfl) fun _ => ?_
  refine iteInduction (fun h => char_of_toNat c 13 h ▸ .short 114 rfl) fun _ => ?_
  refine iteInduction (fun h => char_of_toNat c 9 h ▸ .short 116 rfl) fun _ => ?_
  refine iteInduction (fun h8 => ?_) fun h8 => ?_
  · -- all four alternatives are below 256, so the two leading digits are `00`
    have hlt : c.toNat < 256 := by
      simp only [Bool.or_eq_true, decide_eq_true_eq] at h8
      rcases h8 with ((h | h) | h) | h
      · omega
      all_goals subst h; decide
    have e : asciiBytes "\\u00" ++ [hexLower (c.toNat / 16), hexLower (c.toNat % 16)] = 92 :: 117 :: hex4 c.toNat := by
      have a : c.toNat / 4096 = 0 := by omega
      have b : c.toNat / 256 % 16 = 0 := by omega
      have d : c.toNat / 16 % 16 = c.toNat / 16 := by omega
      rw [hex4, a, b, d]; rfl
    rw [e]; exact .hex (by omega)
  refine iteInduction (fun h => char_of_toNat c _ h ▸ .hex (by decide)) fun _ => ?_
  refine iteInduction (fun h => char_of_toNat c _ h ▸ .hex (by decide)) fun _ => ?_
  simp only [Bool.or_eq_true, decide_eq_true_eq, not_or, Nat.not_lt] at h8
  exact .raw h8.1.1.1 (fun e => h2 (char_of_toNat c 34 e)) (fun e => h1 (char_of_toNat c 92 e))

namespace Esc
variable {c : Char} {bs : Bytes}

/-- no control byte: a printed string stays on one line -/
theorem no_control (h : Esc c bs) : ∀ b ∈ bs, 0x20 ≤ b := by
  cases h with
  | short e he => exact List.forall_mem_cons.mpr ⟨by decide, List.forall_mem_singleton.mpr (unesc_ge _ _ he).1⟩
  | hex hc =>
    intro b hb
    simp only [hex4, List.mem_cons, List.mem_nil_iff, or_false] at hb
    rcases hb with rfl | rfl | rfl | rfl | rfl | rfl
    · decide
    · decide
    all_goals apply hexLower_ge; omega
  | raw h20 _ _ => exact utf8Enc_no_control c h20

/-- one step of the string parser undoes any spelling -/
theorem step (h : Esc c bs) (f : Nat) (t : Bytes) :
    parseStrBody (f + 1) (bs ++ t) = consTo c (parseStrBody f t) := by
  cases h with
  | short e he =>
    simp +decide only [List.cons_append, List.nil_append, parseStrBody_cons, strChar, (unesc_ge _ _ he).2, he, if_true,
      if_false, Option.map_some, Option.bind_some]
  | hex hc =>
    have hn : (decide (0xD800 ≤ c.toNat) && decide (c.toNat < 0xE000)) = false := by
      simp only [Bool.and_eq_false_iff, decide_eq_false_iff_not]; omega
    simp +decide only [List.cons_append, parseStrBody_cons, strChar, getu4_hex4 _ (show c.toNat < 0x10000 by omega) t, hn,
      if_true, if_false, Bool.false_eq_true, Option.map_some, Option.bind_some, Char.ofNat_toNat]
  | raw h20 h34 h92' =>
    obtain ⟨b0, tail, he, hd⟩ := decodeRune_utf8Enc c t
    -- a first byte `"` or `\\` is ASCII, so the decoder returns it as the character: but `c` is neither
    have ne : ∀ k : UInt8, k < 0x80 → c.toNat ≠ k.toNat → b0 ≠ k := fun k hk hc e => by
      rw [e, decodeRune1 k _ hk] at hd
      exact hc (by rw [← (Prod.mk.inj hd).1, ofNat_toNat_small _ (by have := UInt8.lt_iff_toNat_lt.mp hk; simp at this; omega)])
    have h20' := UInt8.not_lt.mpr (utf8Enc_no_control c h20 b0 (by rw [he]; exact List.mem_cons_self ..))
    simp only [he, List.cons_append, parseStrBody_cons, strChar, ne 34 (by decide) h34, ne 92 (by decide) h92', h20',
      if_false, hd, Option.bind_some]

theorem ne_nil (h : Esc c bs) : bs ≠ [] := by
  cases h with
  | short | hex => exact List.cons_ne_nil _ _
  | raw _ _ _ => obtain ⟨b0, tail, he, _⟩ := decodeRune_utf8Enc c []; rw [he]; exact List.cons_ne_nil _ _

end Esc

/-- **string round trip** (C03): the parser reads back exactly the string that was printed — every key, every kept
    string, every placeholder and every `--replacement` text survives serialisation unchanged -/
theorem parseStrBody_print : ∀ (s : Str) (fuel : Nat) (t : Bytes), s.length < fuel →
    parseStrBody fuel (s.flatMap escChar ++ 34 :: t) = some (s, t)
  | [], fuel + 1, t, _ => by simp [parseStrBody]
  | c :: s, fuel + 1, t, h => by
    simp only [List.flatMap_cons, List.append_assoc]
    rw [(escChar_esc c).step, parseStrBody_print s fuel t (by simp at h; omega)]
    rfl
  | _, 0, _, h => by simp at h

/-- in terms of the printer (C05: any `--replacement` text survives serialisation): after the opening quote,
    `printStr s ++ t` parses to `(s, t)` -/
theorem parse_printStr (s : Str) (t : Bytes) (fuel : Nat) (h : s.length < fuel) :
    ∃ body, printStr s ++ t = 34 :: body ∧ parseStrBody fuel body = some (s, t) := by
  refine ⟨s.flatMap escChar ++ 34 :: t, by simp [printStr], parseStrBody_print s fuel t h⟩

end Anonymongo
