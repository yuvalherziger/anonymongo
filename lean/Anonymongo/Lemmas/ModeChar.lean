/-
  Lemmas/ModeChar.lean — what `leafMode` can answer, and why.
  Every walker state makes at most ONE `redactScalarValue` call (`callOf`; with field-name redaction on, a
  `FieldName`-typed stage argument is the second one).  `ModeOK c s v m` lists, per mode, the reasons for which the
  scalar `v` can get mode `m` in state `s`; `leafMode_inv` proves it with one lemma per mode function, each splitting
  only that function's own branches — the product "states × value kinds × branches" never arises.  The leaf-level
  facts (a leaf keeps its JSON type, only a string is hashed, the call of a state) are read off `ModeOK` here and in
  Lemmas/Idem; `callOf_inv` says what the call is in terms of what the state carries (`names`, `selOf`, `searchOf`).
-/
import Anonymongo.Lemmas.LeafMode
import Anonymongo.Lemmas.ScalarKind
import Anonymongo.Lemmas.Shape
namespace Anonymongo

namespace Ctx

/-- the keys in force in a state, from the root of the zone (query walker) or of the stage (stage walker) down.  A list
    of keys to test (`.any`, `Sublist`), not a path: an array element state reached from the query walker repeats its
    parent key (`kp` already ends in `pk`), and below a zone or stage array `pk` is the empty key. -/
def names : St → List Str
  | .P _ kp => kp
  | .PVal _ kp k _ => kp ++ [k]
  | .SubVal _ _ nkp sk _ => nkp ++ [sk]
  | .AElem _ pk _ kp => kp ++ [pk]
  | .QVal _ _ _ nkp => nkp
  | _ => []

/-- the `$field`-sibling flag carried by an array element state -/
def selOf : St → Bool
  | .AElem _ _ sel _ => sel
  | _ => false

/-- inside an Atlas Search stage? -/
def searchOf : St → Bool
  | .P S _ => S
  | .PVal S _ _ _ => S
  | .SubVal S _ _ _ _ => S
  | .AElem S _ _ _ => S
  | .QVal S _ _ _ => S
  | _ => false

/-- the `redactScalarValue` call of a state (the only one when field-name redaction is off) -/
def callOf (c : Ctx) : St → Mode
  | .P S kp => .scalar [[]] S (reMatchesAny c.cfg.re kp)
  | .PVal S kp k _ => .scalar (kp ++ [k]) S false
  | .Facet => .scalar [[]] false (reMatchesAny c.cfg.re [])
  | .FacetStage => .scalar [[]] false (reMatchesAny c.cfg.re [])
  | .SubVal S _ nkp sk _ => .scalar (nkp ++ [sk]) S false
  | .AElem S pk sel kp => .scalar [pk] S (sel || reMatchesAny c.cfg.re kp)
  | .QVal S _ _ nkp => .scalar nkp S false
  | _ => .keep

/-- the call of a state in terms of what the state carries: the value of an entry is judged under the keys in force
    (`path`; non-empty, except that a `QVal` state carries its path as it is given); an array element under the empty
    key in the stage walker (`elem`), under its parent key alone in the query walker (`arr`) -/
inductive CallAt (c : Ctx) (s : St) : List Str → Bool → Prop
  | path : selOf s = false → (names s ≠ [] ∨ ∃ S co k nkp, s = .QVal S co k nkp) → CallAt c s (names s) false
  | elem : selOf s = false → CallAt c s [[]] (reMatchesAny c.cfg.re (names s))
  | arr (pk kp) : names s = kp ++ [pk] → CallAt c s [pk] (selOf s || reMatchesAny c.cfg.re kp)

theorem callOf_inv (c : Ctx) {s : St} {kp : List Str} {S sel : Bool} (h : callOf c s = .scalar kp S sel) :
    S = searchOf s ∧ CallAt c s kp sel := by
  cases s with
  | P | Facet | FacetStage => cases h; exact ⟨rfl, .elem rfl⟩
  | PVal | SubVal => cases h; exact ⟨rfl, .path rfl (.inl (List.append_ne_nil_of_right_ne_nil _ (List.cons_ne_nil _ _)))⟩
  | QVal => cases h; exact ⟨rfl, .path rfl (.inr ⟨_, _, _, _, rfl⟩)⟩
  | AElem _ pk _ kp' => cases h; exact ⟨rfl, .arr pk kp' rfl⟩
  | _ => cases h

/-- a namespace position: the argument of a Namespace-typed entry, or of a stage that names a collection -/
def nsPos : St → Bool
  | .PVal _ _ _ (some (.map m)) => nsStage m
  | .PVal _ _ _ (some (.ty .Namespace)) => true
  | .SubVal _ _ _ _ (some (.ty .Namespace)) => true
  | _ => false

def ModeOK (c : Ctx) (s : St) (v : J) : Mode → Prop
  | .keep =>
      v = .null ∨ (∃ x, v = .str x ∧ dollarPrefixed x = true) ∨ keepMeta (stMeta s) = true ∨ walker s = false
  | .hash x => v = .str x ∧ (c.rfn = true ∨ (c.cfg.ns = true ∧ nsPos s = true) ∨ s = .NsMember)
  | .scalar kp S sel =>
      Mode.scalar kp S sel = callOf c s ∨ c.rfn = true

namespace ModeOK
variable {c : Ctx} {s : St} {v : J} {x : Str} {kp : List Str} {S sel : Bool}

theorem null : ModeOK c s .null .keep := .inl rfl
theorem dollar (hd : dollarPrefixed x = true) : ModeOK c s (.str x) .keep := .inr (.inl ⟨x, rfl, hd⟩)
theorem byMeta (h : keepMeta (stMeta s) = true) : ModeOK c s v .keep := .inr (.inr (.inl h))
theorem outside (h : walker s = false) : ModeOK c s v .keep := .inr (.inr (.inr h))
theorem hashRfn (h : c.rfn = true) : ModeOK c s (.str x) (.hash x) := ⟨rfl, .inl h⟩
theorem hashNs (h : c.cfg.ns = true) (hp : nsPos s = true) : ModeOK c s (.str x) (.hash x) := ⟨rfl, .inr (.inl ⟨h, hp⟩)⟩
theorem nsMember : ModeOK c .NsMember (.str x) (.hash x) := ⟨rfl, .inr (.inr rfl)⟩
theorem call (h : callOf c s = .scalar kp S sel) : ModeOK c s v (.scalar kp S sel) := .inl h.symm
theorem callRfn (h : c.rfn = true) : ModeOK c s v (.scalar kp S sel) := .inr h

end ModeOK

-- one lemma per mode function; each `split` takes the branches of that function in the order of its definition

theorem modeOK_dollar (c : Ctx) (s : St) (x : Str) (hd : dollarPrefixed x = true) :
    ModeOK c s (.str x) (c.dollarMode x) := by
  unfold dollarMode
  split
  · rename_i h; simp only [Bool.and_eq_true] at h; exact .hashRfn h.1
  · exact .dollar hd

theorem modeOK_generic (c : Ctx) (s : St) (S : Bool) (nkp : List Str) (v : J)
    (hc : callOf c s = .scalar nkp S false) : ModeOK c s v (c.genericMode S nkp v) := by
  unfold genericMode
  split
  · split
    · exact modeOK_dollar c s _ ‹_›
    · exact .call hc
  · exact .call hc

theorem modeOK_ns (c : Ctx) (s : St) (v : J) (hk : keepMeta (stMeta s) = true) (hp : nsPos s = true) :
    ModeOK c s v (c.nsMode v) := by
  unfold nsMode
  split
  · split
    · exact .hashNs ‹_› hp
    · exact .byMeta hk
  · exact .byMeta hk

theorem modeOK_pScalar (c : Ctx) (s : St) (S : Bool) (kp : List Str) (v : J)
    (hc : callOf c s = .scalar [[]] S (reMatchesAny c.cfg.re kp)) : ModeOK c s v (c.pScalarMode S kp v) := by
  unfold pScalarMode
  split
  · exact .null
  · split
    · exact modeOK_dollar c s _ ‹_›
    · exact .call hc
  · exact .call hc

theorem modeOK_pVal (c : Ctx) (S : Bool) (kp : List Str) (k : Str) (op : Option Meta) (v : J) :
    ModeOK c (.PVal S kp k op) v (c.pValScalarMode S kp k op v) := by
  have hg : ∀ op' v, ModeOK c (.PVal S kp k op') v (c.genericMode S (kp ++ [k]) v) :=
    fun _ _ => modeOK_generic c _ S _ _ rfl
  unfold pValScalarMode
  split
  · -- a sub-table: the string form of a namespace stage
    split
    · rename_i h; simp only [Bool.and_eq_true] at h
      split
      · exact .hashNs h.1 h.2
      · exact hg _ _
    · exact hg _ _
  · -- `FieldName`
    split
    · split
      · split
        · exact .byMeta rfl
        · split
          · exact .byMeta rfl
          · exact .hashRfn ‹_›
      · exact .callRfn ‹_›
    · split
      · exact .byMeta rfl
      · exact hg _ _
  · exact modeOK_ns c _ _ rfl rfl
  · exact .byMeta rfl
  · exact hg _ _

theorem modeOK_subVal (c : Ctx) (S : Bool) (k : Str) (nkp : List Str) (sk : Str) (sm : Option Meta) (v : J) :
    ModeOK c (.SubVal S k nkp sk sm) v (c.subValScalarMode S k nkp sk sm v) := by
  unfold subValScalarMode
  split
  · -- `FieldName`
    split
    · split
      · split
        · exact .byMeta rfl
        · exact .hashRfn ‹_›
      · exact .byMeta rfl
    · split
      · exact .callRfn ‹_›
      · exact .call rfl
  · exact modeOK_ns c _ _ rfl rfl
  · exact .byMeta rfl
  · -- `Pipeline`: a string there is a keyword
    split
    · exact .byMeta rfl
    · exact .call rfl
  · split
    · split
      · rename_i h; simp only [Bool.and_eq_true] at h; exact .hashRfn h.1.2
      · exact .call rfl
    · exact .call rfl

theorem modeOK_aElem (c : Ctx) (S : Bool) (pk : Str) (sel : Bool) (kp : List Str) (v : J) :
    ModeOK c (.AElem S pk sel kp) v (c.aElemScalarMode S pk sel kp v) := by
  unfold aElemScalarMode
  split
  · exact .null
  · split
    · exact modeOK_dollar c _ _ ‹_›
    · exact .call rfl
  · exact .call rfl

theorem modeOK_qVal (c : Ctx) (S : Bool) (co : Option Meta) (k : Str) (nkp : List Str) (v : J) :
    ModeOK c (.QVal S co k nkp) v (c.qValScalarMode S co nkp v) := by
  unfold qValScalarMode
  split
  · exact .null
  · split
    · exact modeOK_dollar c _ _ ‹_›
    · split
      · exact .byMeta (keepMeta_of_exempt co ‹_›)
      · exact .call rfl
  · split
    · exact .byMeta (keepMeta_of_exempt co ‹_›)
    · exact .call rfl

theorem leafMode_inv (c : Ctx) (s : St) (v : J) (m : Mode) (hm : c.leafMode s v = m) : ModeOK c s v m := by
  subst hm
  cases s with
  | P S kp => exact modeOK_pScalar c _ S kp v rfl
  | PVal S kp k op => exact modeOK_pVal c S kp k op v
  | Facet => exact modeOK_pScalar c _ false [] v rfl
  | FacetStage => exact modeOK_pScalar c _ false [] v rfl
  | SubVal S k nkp sk sm => exact modeOK_subVal c S k nkp sk sm v
  | AElem S pk sel kp => exact modeOK_aElem c S pk sel kp v
  | QVal S co k nkp => exact modeOK_qVal c S co k nkp v
  | NsMember =>
    cases v with
    | str => exact .nsMember
    | _ => exact .outside rfl
  | _ => exact .outside rfl

theorem leafMode_hash_inv (c : Ctx) (s : St) (v : J) (x : Str) (hm : c.leafMode s v = .hash x) : v = .str x :=
  (leafMode_inv c s v _ hm).1

theorem run_kind (c : Ctx) (s : St) (v : J) (hv : v.isScalar = true) : kindOf (c.run s v) = kindOf v := by
  rw [run_scalar c s v hv]
  cases hm : c.leafMode s v with
  | keep => rfl
  | hash x => rw [leafMode_hash_inv c s v x hm]; rfl
  | scalar kp S sel => exact redactScalar_kind c.T c.cfg kp S sel v hv

theorem shapeOK_of_noRfn (c : Ctx) (h : c.rfn = false) : ShapeOK c where
  keys := keys_of_noRfn c h
  leaf s v out hn := by
    have hv := isScalar_of_node_leaf c hn
    rw [← run_of_leaf c hn]
    exact shapeEq_of_kind _ _ hv (run_kind c s v hv)

theorem scalar_call (c : Ctx) (hrfn : c.rfn = false) (s : St) (a : J) (kp : List Str) (S sel : Bool)
    (hm : c.leafMode s a = .scalar kp S sel) : callOf c s = .scalar kp S sel := by
  rcases leafMode_inv c s a _ hm with h | h
  · exact h.symm
  · simp [hrfn] at h

/-- with field-name redaction off "hashed" is a property of the position: if one string is hashed, all are -/
theorem hash_uniform (c : Ctx) (hrfn : c.rfn = false) (s : St) (v : J) (x y : Str)
    (h : c.leafMode s v = .hash x) : c.leafMode s (.str y) = .hash y := by
  rcases (leafMode_inv c s v _ h).2 with h1 | ⟨hns, hp⟩ | rfl
  · simp [hrfn] at h1
  · unfold nsPos at hp
    split at hp
    · simp [leafMode, pValScalarMode, hns, hp]         -- `PVal` with the sub-table of a namespace stage
    · simp [leafMode, pValScalarMode, nsMode, hns]     -- `PVal`, `Namespace`
    · simp [leafMode, subValScalarMode, nsMode, hns]   -- `SubVal`, `Namespace`
    · cases hp
  · rfl

end Ctx
end Anonymongo
