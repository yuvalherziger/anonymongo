/-
  Lemmas/LineLift.lean — from the walkers to `RedactMongoLog`.  `redactLine_lift`: a reflexive, transitive relation
  between a value and its rewrite that holds between any two strings, is a congruence for member-wise maps and holds
  along `run` holds along `RedactMongoLog`: every level of `redactLine` is a key-wise map (Lemmas/LineAlg), and the
  command document is walked by the automaton (`cmdDoc_refine`, Lemmas/Refine).  "Keeps the predicate"
  (`redactLine_pres`, for a `TreePred`) and "keeps the shape" (Props/C03) are instances.
-/
import Anonymongo.Lemmas.Refine
import Anonymongo.Lemmas.LineAlg
import Anonymongo.Lemmas.TreePred
namespace Anonymongo

section Line
variable (R : J → J → Prop) (hrefl : ∀ v, R v v) (htrans : ∀ a b c, R a b → R b c → R a c)
  (hstr : ∀ s t, R (.str s) (.str t))
  (hobj : ∀ (h : Str → J → J) (l : List (Str × J)), (∀ k v, R v (h k v)) → R (.obj l) (.obj (mapVals h l)))
  (harr : ∀ (f : J → J) (xs : List J), (∀ x, R x (f x)) → R (.arr xs) (.arr (xs.map f)))
include hrefl hstr

/-- a string rewritten, anything else kept -/
theorem strCase_lift (g : Str → Str) (w : J) : R w (match w with | .str s => .str (g s) | x => x) := by
  cases w <;> first | exact hstr _ _ | exact hrefl _

theorem nsFieldVal_lift (c : Ctx) (k : Str) (v : J) : R v (c.nsFieldVal k v) := by
  cases v <;> simp only [Ctx.nsFieldVal] <;> (try split) <;> first | exact hstr _ _ | exact hrefl _

include hobj in
theorem nsDocOf_lift (c : Ctx) (v : J) : R v (c.nsDocOf v) := by
  cases v <;> first | exact hobj _ _ (nsFieldVal_lift R hrefl hstr c) | exact hrefl _

include hobj harr in
theorem nsVal_lift (c : Ctx) (k : Str) (v : J) : R v (c.nsVal k v) := by
  unfold Ctx.nsVal
  split
  · exact nsDocOf_lift R hrefl hstr hobj c v
  split
  · cases v <;> first | exact harr _ _ (nsDocOf_lift R hrefl hstr hobj c) | exact hrefl _
  · exact nsFieldVal_lift R hrefl hstr c k v

include htrans hobj harr in
theorem cmdDoc_lift (c : Ctx) (hrun : ∀ s v, R v (c.run s v)) (v : J) : R v (c.cmdDoc v) := by
  rw [← Ctx.cmdDoc_refine]
  cases v with
  | obj cmd =>
    have h1 : R (.obj cmd) (.obj (c.redactCommandA cmd)) :=
      hobj (fun k v => c.run (Ctx.zoneState (lookup sInsert cmd).isSome (lookup sBulkWrite cmd).isSome k) v) cmd (fun _ _ => hrun _ _)
    simp only [Ctx.cmdDocA]
    split
    · exact htrans _ _ _ h1 (hobj c.nsVal _ (nsVal_lift R hrefl hstr hobj harr c))
    · exact h1
  | _ => exact hrefl _

include htrans hobj harr in
/-- **`RedactMongoLog` lifts `R`**, given that the walkers do (with field-name redaction off when no
    `--redactFieldNames` prefix is configured) -/
theorem redactLine_lift (T : Tables) (cfg : Cfg) (eager : List Str) (plan : Str → Str → Str)
    (hrun : ∀ rfn, (eager = [] → rfn = false) → ∀ s v, R v (Ctx.run ⟨T, cfg, rfn⟩ s v))
    (entry : List (Str × J)) : R (.obj entry) (.obj (redactLine T cfg eager plan entry)) := by
  have hattr : ∀ g attr k v, R v (attrFn Ctx.cmdDoc T cfg eager plan g attr k v) := by
    intro g attr k v
    -- the values `v1`, `v2a`, `v2` of `attrFn`, each related to `v`
    have h1 := iteInduction (c := (cfg.ips && k = sRemote) = true)
      (fun _ => strCase_lift R hrefl hstr (fun _ => T.ipPH) v) fun _ => hrefl v
    have h2a := fun (e : Bool) (he : eager = [] → e = false) => iteInduction (c := cmdKeys.contains k = true)
      (fun _ => htrans _ _ _ h1 (cmdDoc_lift R hrefl htrans hstr hobj harr ⟨T, cfg, e⟩ (hrun e he) _)) fun _ => h1
    have h2 := fun (e : Bool) (he : eager = [] → e = false) => iteInduction (c := g = true)
      (fun _ => iteInduction (c := (e && k = sPlanSummary) = true)
        (fun _ => htrans _ _ _ (h2a e he) (strCase_lift R hrefl hstr (plan cfg.repl) _)) fun _ => h2a e he)
      fun _ => h1
    have he : eager = [] → (eager.any fun p => isPrefix p (strOrEmpty (lookup sNs attr))) = false := fun h => by simp [h]
    exact iteInduction (fun _ => htrans _ _ _ (h2 _ he) (strCase_lift R hrefl hstr (hashName cfg.repl) _)) fun _ => h2 _ he
  unfold redactLine redactLineWith
  split
  · rw [mapKey_eq_mapVals]
    refine hobj _ entry fun k v => ?_
    split
    · cases v with
      | obj attr =>
        show R (.obj attr) (.obj (redactAttrWith Ctx.cmdDoc T cfg eager plan (gated entry) attr))
        rw [redactAttrWith_eq_mapVals]; exact hobj _ attr (hattr _ attr)
      | _ => exact hrefl _
    · exact hrefl _
  · exact hrefl _

end Line

/-- `RedactMongoLog`, any flags, keeps a `TreePred` that the number placeholder satisfies -/
theorem redactLine_pres {Q : J → Prop} {KP : List Str → Prop} (tp : TreePred Q KP) (T : Tables) (hnum : Q (.num T.number))
    (cfg : Cfg) (eager : List Str) (plan : Str → Str → Str) (entry : List (Str × J)) (h : Q (.obj entry)) :
    Q (.obj (redactLine T cfg eager plan entry)) :=
  redactLine_lift (fun a b => Q a → Q b) (fun _ h => h) (fun _ _ _ f g h => g (f h)) (fun _ _ _ => tp.str _)
    (fun h l hh => tp.mapVals h hh l) (fun f xs hf => tp.map f hf xs) T cfg eager plan
    (fun rfn _ s v => Ctx.run_pres tp ⟨T, cfg, rfn⟩ hnum s v) entry h

end Anonymongo
