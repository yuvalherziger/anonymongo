/-
  Lemmas/PlanGen.lean — the plan-summary rewriter (Model/Plan) in general, on index specifications of ANY length
  (Props/C15 evaluates worked instances): each `key : direction` member has its key replaced where it stands by `h key`;
  the spacing around the key, the direction, the separators and everything outside the braces are kept.
  From one member (`redactIndexField_member`) to one scan at the head of a summary (`redactIxscans_scan`), on which
  Props/C15b and Props/C15c build.
-/
import Anonymongo.Model.Plan
import Anonymongo.Lemmas.Hash
namespace Anonymongo

theorem isPrefix_head_ne (a b : Char) (as bs : Str) (h : a ≠ b) : isPrefix (a :: as) (b :: bs) = false := by
  simp [isPrefix, h]

theorem isPrefix_self_append : ∀ (k r : Str), isPrefix k (k ++ r) = true
  | [], _ => rfl
  | a :: k, r => by simp [isPrefix, isPrefix_self_append k r]

theorem isPrefix_eq : ∀ (p s : Str), isPrefix p s = p.isPrefixOf s
  | [], _ => rfl
  | _ :: _, [] => rfl
  | a :: as, b :: bs => by rw [isPrefix, List.isPrefixOf, isPrefix_eq as bs]

/-- white space in front of the key cannot be mistaken for the key -/
theorem replaceFirst_after_ws (key new rest : Str) (hne : key ≠ []) (hfirst : ∀ c, key.head? = some c → isUniSpace c = false)
    (ws : Str) (hws : ∀ c ∈ ws, isUniSpace c = true) : replaceFirst key new (ws ++ key ++ rest) = ws ++ new ++ rest := by
  cases key with
  | nil => exact absurd rfl hne
  | cons c0 k' =>
    induction ws with
    | nil =>
      have := isPrefix_self_append (c0 :: k') rest
      simp only [List.cons_append] at this
      simp [replaceFirst, this]
    | cons w ws ih =>
      have hw : c0 ≠ w := fun e => by have := hfirst c0 rfl; rw [e, hws w (by simp)] at this; cases this
      have ih := ih fun c hc => hws c (by simp [hc])
      simp only [List.cons_append, List.append_assoc] at ih ⊢
      simp only [replaceFirst, isPrefix_head_ne c0 w _ _ hw, Bool.false_eq_true, if_false, ih]

theorem dropWhileC_append (p : Char → Bool) : ∀ (ws k : Str), (∀ x ∈ ws, p x = true) → (∀ c ∈ k.head?, p c = false) →
    dropWhileC p (ws ++ k) = k
  | [], [], _, _ => rfl
  | [], c :: r, _, hk => by simp only [List.nil_append, dropWhileC, hk c rfl, Bool.false_eq_true, if_false]
  | w :: ws, k, hws, hk => by
    simp only [List.cons_append, dropWhileC, hws w (by simp), if_true]
    exact dropWhileC_append p ws k (fun x hx => hws x (by simp [hx])) hk

/-- `trimSpace` drops white space at the front, reverses, drops it at the front again and reverses back -/
theorem trimSpace_core (ws1 ws2 key : Str) (hne : key ≠ []) (h1 : ∀ c ∈ ws1, isUniSpace c = true) (h2 : ∀ c ∈ ws2, isUniSpace c = true)
    (hfirst : ∀ c, key.head? = some c → isUniSpace c = false) (hlast : ∀ c, key.getLast? = some c → isUniSpace c = false) :
    trimSpace (ws1 ++ key ++ ws2) = key := by
  unfold trimSpace
  have hhead : (key ++ ws2).head? = key.head? := by
    cases key with
    | nil => exact absurd rfl hne
    | cons _ _ => rfl
  rw [List.append_assoc, dropWhileC_append _ ws1 _ h1 (by rw [hhead]; exact hfirst), List.reverse_append,
    dropWhileC_append _ ws2.reverse _ (by simpa using h2) (by rw [List.head?_reverse]; exact hlast), List.reverse_reverse]

theorem beforeColon_append : ∀ (x y : Str), (∀ c ∈ x, c ≠ ':') → beforeColon (x ++ ':' :: y) = x
  | [], _, _ => by simp [beforeColon]
  | a :: x, y, h => by
    have ha : a ≠ ':' := h a (by simp)
    simp only [List.cons_append, beforeColon, ha, if_false]
    rw [beforeColon_append x y (fun c hc => h c (by simp [hc]))]

theorem fromColon_append : ∀ (x y : Str), (∀ c ∈ x, c ≠ ':') → fromColon (x ++ ':' :: y) = ':' :: y
  | [], _, _ => by simp [fromColon]
  | a :: x, y, h => by
    have ha : a ≠ ':' := h a (by simp)
    simp only [List.cons_append, fromColon, ha, if_false]
    exact fromColon_append x y (fun c hc => h c (by simp [hc]))

/-- a well-formed member of an index specification: spaces, a key, spaces, a colon, the direction -/
structure IndexMember where
  ws1 : Str
  key : Str
  ws2 : Str
  dir : Str
  key_ne : key ≠ []
  ws1_sp : ∀ c ∈ ws1, isUniSpace c = true
  ws2_sp : ∀ c ∈ ws2, isUniSpace c = true
  key_first : ∀ c, key.head? = some c → isUniSpace c = false
  key_last : ∀ c, key.getLast? = some c → isUniSpace c = false
  key_nocolon : ∀ c ∈ key, c ≠ ':'

def IndexMember.text (m : IndexMember) : Str := m.ws1 ++ m.key ++ m.ws2 ++ ':' :: m.dir
def IndexMember.redacted (h : Str → Str) (m : IndexMember) : Str := m.ws1 ++ h m.key ++ m.ws2 ++ ':' :: m.dir

theorem IndexMember.text_ne_nil (m : IndexMember) : m.text ≠ [] := by simp [IndexMember.text]

theorem uniSpace_ne_colon (c : Char) (h : isUniSpace c = true) : c ≠ ':' := by
  intro e; subst e; revert h; decide

/-- **C15 (plan summary, one member)**: the key is replaced where it stands; spacing and direction are kept -/
theorem redactIndexField_member (h : Str → Str) (m : IndexMember) : redactIndexField h m.text = m.redacted h := by
  have hnc : ∀ c ∈ m.ws1 ++ m.key ++ m.ws2, c ≠ ':' := by
    intro c hc
    simp only [List.mem_append] at hc
    rcases hc with (hc | hc) | hc
    · exact uniSpace_ne_colon c (m.ws1_sp c hc)
    · exact m.key_nocolon c hc
    · exact uniSpace_ne_colon c (m.ws2_sp c hc)
  unfold redactIndexField IndexMember.text IndexMember.redacted
  rw [beforeColon_append _ _ hnc, fromColon_append _ _ hnc,
    trimSpace_core m.ws1 m.ws2 m.key m.key_ne m.ws1_sp m.ws2_sp m.key_first m.key_last, if_neg (by simp [m.key_ne]),
    replaceFirst_after_ws m.key _ m.ws2 m.key_ne m.key_first m.ws1 m.ws1_sp]

theorem redactIndexBody_members (h : Str → Str) (ms : List IndexMember) (hne : ms ≠ [])
    (hcomma : ∀ m ∈ ms, ∀ c ∈ m.text, c ≠ ',') :
    redactIndexBody h (intercalate [','] (ms.map IndexMember.text)) = intercalate [','] (ms.map (IndexMember.redacted h)) := by
  unfold redactIndexBody
  rw [splitOn_intercalate ',' (ms.map IndexMember.text) (mt List.map_eq_nil_iff.1 hne) (List.forall_mem_map.2 hcomma)]
  -- `Function.comp_def` first: to see through `redactIndexField h ∘ IndexMember.text` the unifier would unfold `redactIndexField`
  simp only [List.map_map, Function.comp_def, redactIndexField_member]

theorem span_loop_no_brace : ∀ (body rest acc : Str), (∀ c ∈ body, c ≠ '}') →
    List.span.loop (· != '}') (body ++ '}' :: rest) acc = (acc.reverse ++ body, '}' :: rest)
  | [], rest, acc, _ => by simp [List.span.loop]
  | a :: body, rest, acc, h => by
    have ha : a ≠ '}' := h a (by simp)
    have hne : (a != '}') = true := by simpa using ha
    simp only [List.cons_append, List.span.loop, hne]
    rw [span_loop_no_brace body rest (a :: acc) (fun c hc => h c (by simp [hc]))]
    simp

theorem span_no_brace (body rest : Str) (h : ∀ c ∈ body, c ≠ '}') :
    (body ++ '}' :: rest).span (· != '}') = (body, '}' :: rest) := by
  unfold List.span
  rw [span_loop_no_brace body rest [] h]; simp

theorem matchIxscanHere_at (ws body rest : Str) (hws : ∀ c ∈ ws, isReSpace c = true) (hb : body ≠ [])
    (hbr : ∀ c ∈ body, c ≠ '}') :
    matchIxscanHere (sIXSCAN ++ ws ++ '{' :: (body ++ '}' :: rest)) = some (body, rest) := by
  unfold matchIxscanHere
  have hp : isPrefix sIXSCAN (sIXSCAN ++ ws ++ '{' :: (body ++ '}' :: rest)) = true := by
    rw [List.append_assoc]; exact isPrefix_self_append _ _
  have hd : (sIXSCAN ++ ws ++ '{' :: (body ++ '}' :: rest)).drop 6 = ws ++ '{' :: (body ++ '}' :: rest) := by
    rw [List.append_assoc]
    have : sIXSCAN.length = 6 := by decide
    rw [← this]; exact List.drop_left
  have hdrop : dropWhileC isReSpace (ws ++ '{' :: (body ++ '}' :: rest)) = '{' :: (body ++ '}' :: rest) :=
    dropWhileC_append _ ws _ hws fun c hc => by cases hc; decide
  simp only [hp, if_true, hd, hdrop, span_no_brace body rest hbr]
  cases body with
  | nil => exact absurd rfl hb
  | cons a b => rfl

/-- no match where the text does not start with `IX` -/
theorem matchIxscanHere_noIX (c : Char) (r : Str) (hc : c = 'I' → r.head? ≠ some 'X') : matchIxscanHere (c :: r) = none := by
  have : isPrefix sIXSCAN (c :: r) = false := by
    by_cases hI : c = 'I'
    · cases r with
      | nil => subst hI; decide
      | cons d r' =>
        have hd : 'X' ≠ d := fun e => hc hI (by rw [e]; rfl)
        simp [sIXSCAN, isPrefix, hd]
    · exact isPrefix_head_ne 'I' c _ _ (fun e => hI e.symm)
  simp [matchIxscanHere, this]

theorem redactIxscans_nil (h : Str → Str) (fuel : Nat) : redactIxscans h fuel [] = [] := by
  cases fuel <;> rfl

/-- the model recovers the kept text `p` (everything up to and including the brace) by lengths: a text without a suffix is
    what `take` leaves -/
theorem redactIxscans_match (h : Str → Str) (fuel : Nat) (p g rest : Str) (hp : p ≠ [])
    (hm : matchIxscanHere (p ++ (g ++ '}' :: rest)) = some (g, rest)) :
    redactIxscans h (fuel + 1) (p ++ (g ++ '}' :: rest)) = p ++ (redactIndexBody h g ++ '}' :: redactIxscans h fuel rest) := by
  have cut : ∀ p s : Str, (p ++ s).take ((p ++ s).length - s.length) = p := fun p s => by simp
  cases p with
  | nil => exact absurd rfl hp
  | cons c p =>
    have e1 : c :: p ++ (g ++ '}' :: rest) = (c :: p ++ (g ++ ['}'])) ++ rest := by simp
    have e2 : ∀ x : Str, x.length - g.length - 1 = x.length - (g ++ ['}']).length := fun x => by simp; omega
    simp only [List.cons_append, redactIxscans] at hm ⊢
    simp only [hm]
    rw [← List.cons_append, e1, cut, e2, cut]
    simp

/-- the text `IXSCAN <spaces> { m₁, …, mₙ } rest` -/
def planText (ws : Str) (ms : List IndexMember) (rest : Str) : Str :=
  sIXSCAN ++ ws ++ '{' :: (intercalate [','] (ms.map IndexMember.text) ++ '}' :: rest)

theorem redactIxscans_scan (h : Str → Str) (fuel : Nat) (ws : Str) (ms : List IndexMember) (rest : Str)
    (hws : ∀ c ∈ ws, isReSpace c = true) (hne : ms ≠ [])
    (hcomma : ∀ m ∈ ms, ∀ c ∈ m.text, c ≠ ',') (hbrace : ∀ m ∈ ms, ∀ c ∈ m.text, c ≠ '}') :
    redactIxscans h (fuel + 1) (planText ws ms rest) =
      sIXSCAN ++ ws ++ '{' :: (intercalate [','] (ms.map (IndexMember.redacted h)) ++ '}' :: redactIxscans h fuel rest) := by
  have hb : intercalate [','] (ms.map IndexMember.text) ≠ [] := by
    cases ms with
    | nil => exact absurd rfl hne
    | cons m r => exact intercalate_ne_nil _ _ _ m.text_ne_nil
  have hbr : ∀ c ∈ intercalate [','] (ms.map IndexMember.text), c ≠ '}' := by
    intro c hc
    rcases mem_intercalate _ c _ hc with hc | ⟨x, hx, hc⟩
    · rw [List.mem_singleton.1 hc]; decide
    · simp only [List.mem_map] at hx
      obtain ⟨m, hm, rfl⟩ := hx
      exact hbrace m hm c hc
  have e : ∀ t : Str, sIXSCAN ++ ws ++ '{' :: t = (sIXSCAN ++ ws ++ ['{']) ++ t := fun t => by simp
  have hm := matchIxscanHere_at ws _ rest hws hb hbr
  unfold planText
  rw [e] at hm ⊢
  rw [redactIxscans_match h fuel _ _ rest (by simp) hm, redactIndexBody_members h ms hne hcomma]
  exact (e _).symm

theorem planText_length (ws : Str) (ms : List IndexMember) (rest : Str) : rest.length + 8 ≤ (planText ws ms rest).length := by
  simp [planText, sIXSCAN]; omega

end Anonymongo
