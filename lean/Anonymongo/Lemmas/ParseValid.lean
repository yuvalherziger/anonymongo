/-
  Lemmas/ParseValid.lean — the parser's output feeds the round trip of JsonRound: a scanned number literal re-parses
  to itself (`validNumLit_of_parse`), so `printable` — `litsOk validNumLit` and `nodup`, hence a `TreePred` — is
  established by the parser and kept by redaction; a printed value is at least as long as its size measure
  (`size_le_length`), so the parser's fuel suffices: `parseObj (printObj kvs) = some kvs` (`parseObj_printObj`).
-/
import Anonymongo.Lemmas.JsonRound
import Anonymongo.Lemmas.LitsOk
import Anonymongo.Lemmas.NoDup
import Anonymongo.Lemmas.ParsePred
import Anonymongo.Lemmas.LineLift
namespace Anonymongo

theorem validNumLit_of_parse (bs lit r : Bytes) (h : parseNumber bs = some (lit, r)) (hr : endsValue r = true) :
    validNumLit (lit.map fun x => Char.ofNat x.toNat) = true := by
  have hok := fun b hb => (numByte_range b ((parseNumber_scanned bs lit r h).2 b hb)).2
  rw [validNumLit_iff, utf8_ofBytes lit hok]
  refine ⟨List.all_eq_true.mpr ?_, parseNumber_self bs lit r h hr⟩
  rintro c hc
  obtain ⟨b, hb, rfl⟩ := List.mem_map.mp hc
  rw [ofNat_toNat_small _ (by have := hok b hb; omega)]
  exact decide_eq_true (hok b hb)

mutual
theorem printable_iff : ∀ v : J, v.printable = (v.litsOk validNumLit && v.nodup)
  | .null => rfl
  | .bool _ => rfl
  | .str _ => rfl
  | .num lit => by simp [J.printable, J.litsOk, J.nodup]
  | .arr xs => by simp only [J.printable, J.litsOk, J.nodup]; exact printableList_iff xs
  | .obj kvs => by
    simp only [J.printable, J.litsOk, J.nodup, printableKVs_iff kvs]
    simp only [Bool.and_left_comm, Bool.and_comm]
theorem printableList_iff : ∀ xs : List J, printableList xs = (litsOkList validNumLit xs && nodupList xs)
  | [] => rfl
  | x :: xs => by
    simp only [printableList, litsOkList, nodupList, printable_iff x, printableList_iff xs]
    simp only [Bool.and_assoc, Bool.and_left_comm, Bool.and_comm]
theorem printableKVs_iff : ∀ kvs : List (Str × J), printableKVs kvs = (litsOkKVs validNumLit kvs && nodupKVs kvs)
  | [] => rfl
  | (_, v) :: rest => by
    simp only [printableKVs, litsOkKVs, nodupKVs, printable_iff v, printableKVs_iff rest]
    simp only [Bool.and_assoc, Bool.and_left_comm, Bool.and_comm]
end

theorem printable_treePred : TreePred (fun v => v.printable = true) (fun ks => True ∧ nodupKeys ks = true) :=
  (litsOk_treePred validNumLit).of_and nodup_treePred fun v => by rw [printable_iff, Bool.and_eq_true]

theorem parseMembers_printable : ∀ (fuel : Nat) (bs : Bytes) (acc kvs : List (Str × J)) (r : Bytes),
    (J.obj acc).printable = true → parseMembers fuel bs acc = some (kvs, r) → (J.obj kvs).printable = true :=
  fun fuel bs acc kvs r ha h => (parseMembers_sound fuel bs acc kvs r h).pres printable_treePred validNumLit_of_parse ha

theorem parseElems_printable : ∀ (fuel : Nat) (bs : Bytes) (xs : List J) (r : Bytes),
    parseElems fuel bs = some (xs, r) → printableList xs = true := fun fuel bs xs r h =>
  (printable_treePred.arr xs).mpr ((parseElems_sound fuel bs xs r h).pres printable_treePred validNumLit_of_parse)

/-- every line the parser accepts is a printable tree (C03) -/
theorem parseObj_printable (bs : Bytes) (e : List (Str × J)) (h : parseObj bs = some e) : (J.obj e).printable = true :=
  parseObj_pres printable_treePred validNumLit_of_parse bs e h

/-- `RedactMongoLog`, any flags, keeps a tree printable (given a valid number placeholder) (C03) -/
theorem redactLine_printable (T : Tables) (hT : validNumLit T.number = true) (cfg : Cfg) (eager : List Str)
    (plan : Str → Str → Str) (entry : List (Str × J)) (h : (J.obj entry).printable = true) :
    (J.obj (redactLine T cfg eager plan entry)).printable = true :=
  redactLine_pres printable_treePred T hT cfg eager plan entry h

mutual
theorem size_le_length : ∀ v : J, v.printable = true → v.size ≤ (printJ v).length
  | .null, _ => by decide
  | .bool true, _ => by decide
  | .bool false, _ => by decide
  | .str s, _ => by simp [J.size, printJ, printStr]
  | .num lit, h => by
    obtain ⟨b, r, hu, _⟩ := validNum_head lit h
    simp [J.size, printJ, hu]
  | .arr xs, h => by
    have := sizeList_le xs h
    simp only [J.size, printJ, List.length_append, List.length_cons, List.length_nil]; omega
  | .obj kvs, h => by
    simp only [J.printable, Bool.and_eq_true] at h
    have := sizeKVs_le kvs h.2
    simp only [J.size, printJ, List.length_append, List.length_cons, List.length_nil]; omega
theorem sizeList_le : ∀ xs : List J, printableList xs = true → sizeList xs ≤ (printElems xs).length + 1
  | [], _ => by simp [sizeList]
  | [x], h => by
    simp only [printableList, Bool.and_eq_true] at h
    have := size_le_length x h.1
    simp only [sizeList, printElems]; omega
  | x :: y :: ys, h => by
    simp only [printableList, Bool.and_eq_true] at h
    have h1 := size_le_length x h.1
    have h2 := sizeList_le (y :: ys) (by simp [printableList, h.2.1, h.2.2])
    simp only [sizeList, printElems, List.length_append, List.length_cons, List.length_nil] at h2 ⊢; omega
theorem sizeKVs_le : ∀ kvs : List (Str × J), printableKVs kvs = true → sizeKVs kvs ≤ (printMembers kvs).length + 1
  | [], _ => by simp [sizeKVs]
  | [(k, v)], h => by
    simp only [printableKVs, Bool.and_eq_true] at h
    have := size_le_length v h.1
    simp only [sizeKVs, printMembers, List.length_append, List.length_cons, List.length_nil]; omega
  | (k, v) :: (k2, v2) :: ms, h => by
    simp only [printableKVs, Bool.and_eq_true] at h
    have h1 := size_le_length v h.1
    have h2 := sizeKVs_le ((k2, v2) :: ms) (by simp [printableKVs, h.2.1, h.2.2])
    simp only [sizeKVs, printMembers, List.length_append, List.length_cons, List.length_nil] at h2 ⊢; omega
end

/-- **parse ∘ print = id** on whole lines (C03, C19): a printable object, serialised and parsed again
    (`UnmarshalOrdered ∘ MarshalOrdered`), is the same tree -/
theorem parseObj_printObj (kvs : List (Str × J)) (h : (J.obj kvs).printable = true) :
    parseObj (printObj kvs) = some kvs := by
  have hp := (printJ_parses (.obj kvs) h [] rfl ((printObj kvs).length + 1)
    (by have := size_le_length _ h; simp only [printObj]; omega)).complete
  simp only [List.append_nil] at hp
  unfold parseObj
  simp only [printObj] at hp ⊢
  rw [hp]
  simp [skipWs]

theorem parseObj_nodup (bs : Bytes) (e : List (Str × J)) (h : parseObj bs = some e) : (J.obj e).nodup = true := by
  have := parseObj_printable bs e h
  rw [printable_iff, Bool.and_eq_true] at this
  exact this.2

end Anonymongo
