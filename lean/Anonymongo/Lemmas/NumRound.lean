/-
  Lemmas/NumRound.lean — the number scanner `parseNumber`.  What it returns splits its input into a literal of number
  bytes (`numByte`; printable ASCII) and a rest (`Scanned`).  A byte that ends a value (`endsValue`) fails every test
  the scanner makes, so the scanner commutes with appending text that starts with one (`parseNumber_append`), and a
  literal scanned in front of one parses to itself when it stands alone (`parseNumber_self`).
-/
import Anonymongo.Model.JsonText
namespace Anonymongo

/-- the bytes a JSON number literal is made of -/
def numByte (b : UInt8) : Bool := isDigit b || b = 45 || b = 43 || b = 46 || b = 101 || b = 69

theorem numByte_range (b : UInt8) (h : numByte b = true) : 0x20 ≤ b.toNat ∧ b.toNat < 0x80 := by
  simp only [numByte, isDigit, Bool.or_eq_true, Bool.and_eq_true, decide_eq_true_eq] at h
  rcases h with ((((h | h) | h) | h) | h) | h
  · have h1 := UInt8.le_iff_toNat_le.mp h.1; have h2 := UInt8.le_iff_toNat_le.mp h.2; simp at h1 h2; omega
  all_goals (subst h; decide)

def Scanned (bs lit r : Bytes) : Prop := bs = lit ++ r ∧ ∀ b ∈ lit, numByte b = true

namespace Scanned

theorem nil (bs : Bytes) : Scanned bs [] bs := ⟨rfl, fun _ h => nomatch h⟩

theorem cons {b : UInt8} {bs lit r : Bytes} (hb : numByte b = true) (h : Scanned bs lit r) : Scanned (b :: bs) (b :: lit) r :=
  ⟨by rw [h.1]; rfl, fun x hx => (List.mem_cons.mp hx).elim (· ▸ hb) (h.2 x)⟩

theorem append {bs l1 r1 l2 r2 : Bytes} (h1 : Scanned bs l1 r1) (h2 : Scanned r1 l2 r2) : Scanned bs (l1 ++ l2) r2 :=
  ⟨by rw [h1.1, h2.1, List.append_assoc], fun x hx => (List.mem_append.mp hx).elim (h1.2 x) (h2.2 x)⟩

end Scanned

theorem takeDigits_scanned : ∀ bs, Scanned bs (takeDigits bs).1 (takeDigits bs).2
  | [] => .nil _
  | b :: r => by
    simp only [takeDigits]
    split
    · rename_i hd; exact .cons (by simp [numByte, hd]) (takeDigits_scanned r)
    · exact .nil _

theorem numSign_scanned (bs : Bytes) : Scanned bs (numSign bs).1 (numSign bs).2 := by
  unfold numSign; split
  · exact .cons (by decide) (.nil _)
  · exact .nil _

theorem numInt_scanned (bs ip r : Bytes) (h : numInt bs = some (ip, r)) : Scanned bs ip r := by
  unfold numInt at h
  split at h
  · cases h
  · split at h
    · rename_i e; cases h; rw [e]; exact .cons (by decide) (.nil _)
    · split at h
      · rename_i b0 r0 _ _
        have := takeDigits_scanned (b0 :: r0)
        rwa [Option.some.inj h] at this
      · cases h

theorem numFrac_scanned (bs fp r : Bytes) (h : numFrac bs = some (fp, r)) : Scanned bs fp r := by
  unfold numFrac at h
  split at h
  · split at h
    · cases h
    · cases h; exact .cons (by decide) (takeDigits_scanned _)
  · cases h; exact .nil _

theorem numExpSign_scanned (bs : Bytes) : Scanned bs (numExpSign bs).1 (numExpSign bs).2 := by
  unfold numExpSign; split
  · exact .cons (by decide) (.nil _)
  · exact .cons (by decide) (.nil _)
  · exact .nil _

theorem numExp_scanned (bs ep r : Bytes) (h : numExp bs = some (ep, r)) : Scanned bs ep r := by
  unfold numExp at h
  split at h
  · cases h; exact .nil _
  · split at h
    · rename_i he
      split at h
      · cases h
      · cases h
        refine .cons ?_ ((numExpSign_scanned _).append (takeDigits_scanned _))
        simp only [Bool.or_eq_true, decide_eq_true_eq] at he
        rcases he with rfl | rfl <;> decide
    · cases h; exact .nil _

theorem parseNumber_scanned (bs lit r : Bytes) (h : parseNumber bs = some (lit, r)) : Scanned bs lit r := by
  simp only [parseNumber] at h
  split at h
  · cases h
  · rename_i ip r1 hi
    split at h
    · cases h
    · rename_i fp r2 hf
      split at h
      · cases h
      · rename_i ep r3 he
        cases h
        exact (((numSign_scanned bs).append (numInt_scanned _ ip r1 hi)).append (numFrac_scanned _ fp r2 hf)).append
          (numExp_scanned _ ep _ he)

theorem endsValue_fails_scanner {b : UInt8} {r : Bytes} (h : endsValue (b :: r) = true) :
    isDigit b = false ∧ b ≠ 45 ∧ b ≠ 43 ∧ b ≠ 46 ∧ b ≠ 48 ∧ (decide (49 ≤ b) && decide (b ≤ 57)) = false ∧
      (decide (b = 101) || decide (b = 69)) = false := by
  simp only [endsValue, isWs, Bool.or_eq_true, decide_eq_true_eq] at h
  rcases h with (((((e | e) | e) | e) | e) | e) | e <;> subst e <;> decide

section
variable (t : Bytes) (ht : endsValue t = true)
include ht

theorem takeDigits_ext : ∀ bs,
    takeDigits (bs ++ t) = ((takeDigits bs).1, (takeDigits bs).2 ++ t)
  | [] => by
    cases t with
    | nil => simp [takeDigits]
    | cons b r => simp [takeDigits, (endsValue_fails_scanner ht).1]
  | x :: xs => by
    simp only [List.cons_append, takeDigits]
    split
    · simp [takeDigits_ext xs]
    · simp

theorem numSign_ext (bs : Bytes) :
    numSign (bs ++ t) = ((numSign bs).1, (numSign bs).2 ++ t) := by
  cases bs with
  | nil =>
    cases t with
    | nil => rfl
    | cons b r =>
      simp [numSign, (endsValue_fails_scanner ht).2.1]
  | cons x xs =>
    by_cases h : x = 45
    · subst h; rfl
    · simp [numSign, h]

theorem numInt_ext (bs : Bytes) :
    numInt (bs ++ t) = (numInt bs).map (fun p => (p.1, p.2 ++ t)) := by
  cases bs with
  | nil =>
    cases t with
    | nil => rfl
    | cons b r =>
      obtain ⟨_, _, _, _, h1, h2, _⟩ := endsValue_fails_scanner ht
      simp [numInt, h1, h2]
  | cons x xs =>
    simp only [List.cons_append, numInt]
    split
    · rfl
    · split
      · have := takeDigits_ext t ht (x :: xs)
        simp only [List.cons_append] at this
        simp [this]
      · rfl

theorem numFrac_ext (bs : Bytes) :
    numFrac (bs ++ t) = (numFrac bs).map (fun p => (p.1, p.2 ++ t)) := by
  cases bs with
  | nil =>
    cases t with
    | nil => rfl
    | cons b r =>
      simp [numFrac, (endsValue_fails_scanner ht).2.2.2.1]
  | cons x xs =>
    by_cases h : x = 46
    · subst h
      simp only [List.cons_append, numFrac, takeDigits_ext t ht xs]
      split <;> simp
    · simp [numFrac, h]

theorem numExpSign_ext (bs : Bytes) :
    numExpSign (bs ++ t) = ((numExpSign bs).1, (numExpSign bs).2 ++ t) := by
  cases bs with
  | nil =>
    cases t with
    | nil => rfl
    | cons b r =>
      obtain ⟨_, h2, h1, _⟩ := endsValue_fails_scanner ht
      simp [numExpSign, h1, h2]
  | cons x xs =>
    by_cases h1 : x = 43
    · subst h1; rfl
    · by_cases h2 : x = 45
      · subst h2; rfl
      · simp [numExpSign, h1, h2]

theorem numExp_ext (bs : Bytes) :
    numExp (bs ++ t) = (numExp bs).map (fun p => (p.1, p.2 ++ t)) := by
  cases bs with
  | nil =>
    cases t with
    | nil => rfl
    | cons b r =>
      simp [numExp, (endsValue_fails_scanner ht).2.2.2.2.2.2]
  | cons x xs =>
    simp only [List.cons_append, numExp]
    split
    · rw [numExpSign_ext t ht xs]
      simp only [takeDigits_ext t ht]
      split <;> simp
    · simp

end

/-- **the number scanner ignores what follows a byte that ends a value** -/
theorem parseNumber_append (t : Bytes) (ht : endsValue t = true) (bs : Bytes) :
    parseNumber (bs ++ t) = (parseNumber bs).map (fun p => (p.1, p.2 ++ t)) := by
  unfold parseNumber
  simp only [numSign_ext t ht bs, numInt_ext t ht]
  cases numInt (numSign bs).2 with
  | none => rfl
  | some p1 =>
    simp only [Option.map_some, numFrac_ext t ht]
    cases numFrac p1.2 with
    | none => rfl
    | some p2 =>
      simp only [Option.map_some, numExp_ext t ht]
      cases numExp p2.2 with
      | none => rfl
      | some p3 => rfl

/-- `endsValue t`, spelt out as a proposition about the head of `t` -/
def delimHead (t : Bytes) : Prop :=
  ∀ b, t.head? = some b → (b = 44 ∨ b = 93 ∨ b = 125 ∨ b = 32 ∨ b = 9 ∨ b = 10 ∨ b = 13)

theorem delimHead_iff (t : Bytes) : delimHead t ↔ endsValue t = true := by
  cases t with
  | nil => simp [delimHead, endsValue]
  | cons b r =>
    simp only [delimHead, List.head?_cons, Option.some.injEq, forall_eq', endsValue, isWs, Bool.or_eq_true,
      decide_eq_true_eq]
    constructor
    · rintro (h | h | h | h | h | h | h) <;> simp [h]
    · rintro ((((((h | h) | h) | h) | h) | h) | h) <;> simp [h]

/-- `parseNumber_append` with the hypothesis as `delimHead` (C03: the number case of parse ∘ print = id) -/
theorem parseNumber_ext (t : Bytes) (ht : delimHead t) (bs : Bytes) :
    parseNumber (bs ++ t) = (parseNumber bs).map (fun p => (p.1, p.2 ++ t)) :=
  parseNumber_append t ((delimHead_iff t).mp ht) bs

/-- a literal scanned in front of a value-terminating byte re-parses, alone, to itself -/
theorem parseNumber_self (bs lit r : Bytes) (h : parseNumber bs = some (lit, r)) (hr : endsValue r = true) :
    parseNumber lit = some (lit, []) := by
  have hext := parseNumber_append r hr lit
  rw [← (parseNumber_scanned bs lit r h).1, h] at hext
  cases hp : parseNumber lit with
  | none => simp [hp] at hext
  | some p =>
    simp only [hp, Option.map_some, Option.some.injEq, Prod.mk.injEq, List.self_eq_append_left] at hext
    rw [hext.1, ← hext.2]

end Anonymongo
