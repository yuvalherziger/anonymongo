/-
  Lemmas/PrintLine.lean — the serialiser never emits a raw line feed (or any other control byte):
  every output line is one physical line (`printObj_one_line`).  Numbers are printed as their literal
  text, so the statement needs the number literals of the tree to be free of control characters
  (`J.numsOk`) — which holds for every tree the parser produces (digits, sign, point, exponent) and is
  preserved by redaction (`parseObj_numsOk`, `redactLine_numsOk`, Lemmas/NumsOk.lean).
-/
import Anonymongo.Lemmas.Esc
namespace Anonymongo

def okByte (b : UInt8) : Bool := 0x20 ≤ b

theorem okByte_iff (b : UInt8) : okByte b = true ↔ 0x20 ≤ b := decide_eq_true_iff

theorem asciiBytes_ok (s : String) (h : ∀ c ∈ s.toList, 0x20 ≤ c.toNat % 256) : ∀ b ∈ asciiBytes s, okByte b = true := by
  intro b hb
  simp only [asciiBytes, List.mem_map] at hb
  obtain ⟨c, hc, rfl⟩ := hb
  rw [okByte_iff, UInt8.le_iff_toNat_le]; simp; exact h c hc

theorem printStr_ok (s : Str) : ∀ b ∈ printStr s, okByte b = true := by
  simp only [printStr, List.forall_mem_append, List.forall_mem_singleton, List.mem_flatMap]
  exact ⟨⟨by decide, fun b ⟨c, _, hb⟩ => (okByte_iff b).mpr ((escChar_esc c).no_control b hb)⟩, by decide⟩

mutual
/-- no number literal anywhere in the tree contains a control character -/
def J.numsOk : J → Bool
  | .num lit => lit.all fun c => 0x20 ≤ c.toNat
  | .arr xs => numsOkList xs
  | .obj kvs => numsOkKVs kvs
  | _ => true
def numsOkList : List J → Bool
  | [] => true
  | x :: xs => x.numsOk && numsOkList xs
def numsOkKVs : List (Str × J) → Bool
  | [] => true
  | (_, v) :: rest => v.numsOk && numsOkKVs rest
end

theorem utf8_ok (lit : Str) (h : (lit.all fun c => 0x20 ≤ c.toNat) = true) : ∀ b ∈ utf8 lit, okByte b = true := by
  intro b hb
  obtain ⟨c, hc, hb⟩ := List.mem_flatMap.mp hb
  exact (okByte_iff b).mpr (utf8Enc_no_control c (of_decide_eq_true (List.all_eq_true.mp h c hc)) b hb)

mutual
theorem printJ_ok : ∀ (v : J), v.numsOk = true → ∀ b ∈ printJ v, okByte b = true
  | .null, _ | .bool true, _ | .bool false, _ => by decide
  | .num lit, h => utf8_ok lit h
  | .str s, _ => printStr_ok s
  | .arr xs, h => by
    simp only [printJ, List.forall_mem_append, List.forall_mem_singleton]
    exact ⟨⟨by decide, printElems_ok xs h⟩, by decide⟩
  | .obj kvs, h => by
    simp only [printJ, List.forall_mem_append, List.forall_mem_singleton]
    exact ⟨⟨by decide, printMembers_ok kvs h⟩, by decide⟩
theorem printElems_ok : ∀ (xs : List J), numsOkList xs = true → ∀ b ∈ printElems xs, okByte b = true
  | [], _ => fun _ hb => nomatch hb
  | [x], h => by
    simp only [numsOkList, Bool.and_true] at h
    exact printJ_ok x h
  | x :: y :: rest, h => by
    simp only [numsOkList, Bool.and_eq_true] at h
    simp only [printElems, List.forall_mem_append, List.forall_mem_singleton]
    exact ⟨⟨printJ_ok x h.1, by decide⟩, printElems_ok (y :: rest) (by simp only [numsOkList, h.2, Bool.and_self])⟩
theorem printMembers_ok : ∀ (kvs : List (Str × J)), numsOkKVs kvs = true → ∀ b ∈ printMembers kvs, okByte b = true
  | [], _ => fun _ hb => nomatch hb
  | [(k, v)], h => by
    simp only [numsOkKVs, Bool.and_true] at h
    simp only [printMembers, List.forall_mem_append, List.forall_mem_singleton]
    exact ⟨⟨printStr_ok k, by decide⟩, printJ_ok v h⟩
  | (k, v) :: (k2, v2) :: rest, h => by
    simp only [numsOkKVs, Bool.and_eq_true] at h
    simp only [printMembers, List.forall_mem_append, List.forall_mem_singleton]
    exact ⟨⟨⟨⟨printStr_ok k, by decide⟩, printJ_ok v h.1⟩, by decide⟩,
      printMembers_ok ((k2, v2) :: rest) (by simp only [numsOkKVs, h.2, Bool.and_self])⟩
end

/-- **one physical line** (C03): the printed object contains no line feed, no carriage return, no other
    control byte -/
theorem printObj_one_line (kvs : List (Str × J)) (h : numsOkKVs kvs = true) :
    ∀ b ∈ printObj kvs, b ≠ 10 ∧ b ≠ 13 ∧ 0x20 ≤ b := by
  intro b hb
  have := (okByte_iff b).mp (printJ_ok (.obj kvs) h b hb)
  refine ⟨?_, ?_, this⟩ <;> rintro rfl <;> exact absurd this (by decide)

end Anonymongo
