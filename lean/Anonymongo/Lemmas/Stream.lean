/-
  Lemmas/Stream.lean — the reader of Model/Stream.lean on texts made of lines (`joinLines`): what `splitNL`,
  `scanTokens`, `dropCR` and `endsUnterminated` do with lines that hold no line feed and are not over-long
  (`splitNL_join_append`, `splitNL_no_nl`, `scanTokens_append_short` and their corollaries), and `emitAll`
  without a write fault (`emitAll_none`) and with one (`emitAll_some`).  `joinLines` is the `flatMap` of
  `processLines` (`joinLines_eq_flatMap`, `processLines_eq_join`).  Used by Props/C06, Props/C19b.
-/
import Anonymongo.Model.Stream
namespace Anonymongo

/-- text of a list of lines, every line terminated by LF (`cr = false`) or by CR LF (`cr = true`) -/
def joinLines (cr : Bool) : List Bytes → Bytes
  | [] => []
  | l :: rest => l ++ (if cr then [13, 10] else [10]) ++ joinLines cr rest

/-- the same `flatMap` as in `processLines` -/
theorem joinLines_eq_flatMap (cr : Bool) : ∀ ls, joinLines cr ls = ls.flatMap (· ++ if cr then [13, 10] else [10])
  | [] => rfl
  | l :: rest => by simp only [joinLines, List.flatMap_cons, joinLines_eq_flatMap cr rest, List.append_assoc]

theorem processLines_eq_join (f : Bytes → Option Bytes) (ls : List Bytes) :
    processLines f ls = joinLines false (ls.filterMap f) :=
  (joinLines_eq_flatMap false _).symm

theorem joinLines_append (cr : Bool) (a b : List Bytes) : joinLines cr (a ++ b) = joinLines cr a ++ joinLines cr b := by
  simp only [joinLines_eq_flatMap, List.flatMap_append]

theorem joinLines_cr (ls : List Bytes) : joinLines true ls = joinLines false (ls.map (· ++ [13])) := by
  simp [joinLines_eq_flatMap, List.flatMap_map]

theorem splitNL_line (l : Bytes) (h : ∀ b ∈ l, b ≠ 10) (rest : Bytes) :
    splitNL (l ++ 10 :: rest) = l :: splitNL rest := by
  induction l with
  | nil => simp [splitNL]
  | cons b t ih =>
    have hb : b ≠ 10 := h b (by simp)
    have ih' := ih (fun x hx => h x (by simp [hx]))
    simp only [List.cons_append, splitNL, hb, if_false, ih']

theorem splitNL_join_append (A : List Bytes) (hA : ∀ l ∈ A, ∀ b ∈ l, b ≠ 10) (x : Bytes) :
    splitNL (joinLines false A ++ x) = A ++ splitNL x := by
  induction A with
  | nil => simp [joinLines]
  | cons l rest ih =>
    simp only [joinLines, Bool.false_eq_true, if_false, List.append_assoc, List.cons_append, List.nil_append]
    rw [splitNL_line l (hA l (by simp)), ih (fun y hy => hA y (by simp [hy]))]

theorem splitNL_joinLF (ls : List Bytes) (h : ∀ l ∈ ls, ∀ b ∈ l, b ≠ 10) : splitNL (joinLines false ls) = ls := by
  simpa [splitNL] using splitNL_join_append ls h []

theorem splitNL_joinCRLF (ls : List Bytes) (h : ∀ l ∈ ls, ∀ b ∈ l, b ≠ 10) :
    splitNL (joinLines true ls) = ls.map (· ++ [13]) := by
  rw [joinLines_cr, splitNL_joinLF]
  intro l hl b hb
  obtain ⟨l', hl', rfl⟩ := List.mem_map.1 hl
  rcases List.mem_append.1 hb with hb | hb
  · exact h l' hl' b hb
  · rw [List.mem_singleton.1 hb]; decide

theorem splitNL_no_nl : ∀ (p : Bytes), (∀ b ∈ p, b ≠ 10) → p ≠ [] → splitNL p = [p]
  | [], _, h => absurd rfl h
  | [b], hb, _ => by simp [splitNL, hb b (by simp)]
  | b :: c :: t, hb, _ => by
    have ih := splitNL_no_nl (c :: t) (fun x hx => hb x (by simp [hx])) (by simp)
    simp only [splitNL, hb b (by simp), if_false] at ih ⊢
    rw [ih]

theorem scanTokens_append_short (A : List Bytes) (hA : ∀ a ∈ A, a.length ≤ maxLine) (X : List Bytes) :
    scanTokens (A ++ X) = (A.map dropCR ++ (scanTokens X).1, (scanTokens X).2) := by
  induction A with
  | nil => simp
  | cons a rest ih =>
    have ha : ¬ a.length > maxLine := by have := hA a (by simp); omega
    simp [scanTokens, ha, ih (fun x hx => hA x (by simp [hx]))]

theorem scanTokens_short (A : List Bytes) (hA : ∀ a ∈ A, a.length ≤ maxLine) : scanTokens A = (A.map dropCR, false) := by
  simpa [scanTokens] using scanTokens_append_short A hA []

theorem dropCR_append_cr (l : Bytes) : dropCR (l ++ [13]) = l := by
  simp [dropCR]

theorem dropCR_id (l : Bytes) (h : l.getLast? ≠ some 13) : dropCR l = l := by
  unfold dropCR; split
  · rename_i h2; exact absurd h2 h
  · rfl

theorem endsUnterminated_joinLF (ls : List Bytes) : endsUnterminated (joinLines false ls) = false := by
  rcases List.eq_nil_or_concat ls with rfl | ⟨init, l, rfl⟩
  · rfl
  · simp [joinLines_append, joinLines, endsUnterminated, List.getLast?_append]

theorem endsUnterminated_append_ne (a p : Bytes) (hp : ∀ b ∈ p, b ≠ 10) (hne : p ≠ []) : endsUnterminated (a ++ p) = true := by
  simp only [endsUnterminated, List.getLast?_append, List.getLast?_eq_some_getLast hne, Option.some_or]
  simpa using hp _ (List.getLast_mem hne)

theorem emitAll_none (f : Bytes → Option Bytes) : ∀ (toks : List Bytes) (n : Nat),
    emitAll f none toks n = (processLines f toks, false)
  | [], _ => by simp [emitAll, processLines]
  | t :: rest, n => by
    cases h : f t with
    | none => simp [emitAll, h, emitAll_none f rest n, processLines]
    | some o => simp [emitAll, h, emitAll_none f rest (n + 1), processLines]

/-- with the `k`-th write failing, exactly the first `k` output lines are written, each with its newline, and
    the failing write is reached iff there is a `k`-th output line (stated after `n` writes, for the induction) -/
theorem emitAll_some (f : Bytes → Option Bytes) (k : Nat) : ∀ (toks : List Bytes) (n : Nat), n ≤ k →
    emitAll f (some k) toks n =
      (((toks.filterMap f).take (k - n)).flatMap (· ++ [10]), decide (k - n < (toks.filterMap f).length))
  | [], n, _ => by simp [emitAll]
  | t :: rest, n, hn => by
    cases h : f t with
    | none => simp only [emitAll, h, List.filterMap_cons, emitAll_some f k rest n hn]
    | some o =>
      by_cases hk : k = n
      · subst hk; simp [emitAll, h]
      · obtain ⟨m, hm⟩ : ∃ m, k - n = m + 1 := ⟨k - n - 1, by omega⟩
        have hne : ¬ (some k = some n) := by simpa using hk
        simp only [emitAll, h, hne, if_false, List.filterMap_cons, emitAll_some f k rest (n + 1) (by omega), hm,
          show k - (n + 1) = m by omega, List.take_succ_cons, List.flatMap_cons, List.length_cons,
          Nat.add_lt_add_iff_right, List.append_assoc]

theorem filterMap_fixed (f : Bytes → Option Bytes) : ∀ (outs : List Bytes), (∀ o ∈ outs, f o = some o) → outs.filterMap f = outs
  | [], _ => rfl
  | o :: rest, h => by
    simp only [List.filterMap_cons, h o (by simp)]
    rw [filterMap_fixed f rest (fun x hx => h x (by simp [hx]))]

theorem runStream_read_ne_ok (f : Bytes → Option Bytes) (bs : Bytes) (k : Nat) (w : Option Nat) (hk : k ≤ bs.length) :
    (runStream f bs (some k) w).2 ≠ .ok := by
  simp only [runStream, hk, if_true]
  rcases scanTokens (splitNL (bs.take k)) with ⟨toks, tl⟩
  dsimp only
  rcases emitAll f w _ 0 with ⟨o, wf⟩
  dsimp only
  cases wf <;> cases tl <;> nofun

end Anonymongo
