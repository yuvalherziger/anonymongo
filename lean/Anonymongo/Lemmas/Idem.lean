/-
  Lemmas/Idem.lean — the fixed-point property (C19) below the line level: placeholders classify as themselves, so
  redacting a redacted leaf changes nothing (`redactScalar_idem`); with field-name and namespace pseudonymisation off
  the walker handles a redacted leaf as it handled the original (`mode_stable`), so every tree is related to its own
  redaction by "is what the walker emits, and is left alone by it" (`FixRel`, `relAt_self_run`).
-/
import Anonymongo.Lemmas.Rel
import Anonymongo.Lemmas.ModeChar
namespace Anonymongo

/-- the placeholder of a scalar's class is its own placeholder -/
theorem placeholder_idem (T : Tables) (cfg : Cfg) (hrepl : isEmail cfg.repl = false) (hph : isEmail T.emailPH = true)
    (kp : List Str) (a : J) (ha : a.isScalar = true) :
    placeholderOf T cfg (placeholderOf T cfg a (classOf kp a)) (classOf kp (placeholderOf T cfg a (classOf kp a)))
      = placeholderOf T cfg a (classOf kp a) := by
  cases a with
  | obj _ | arr _ => cases ha
  | null =>
    by_cases h : (lastD kp = sSubType && grandParent kp = sBinary) = true <;> simp [classOf, placeholderOf, h]
  | bool x =>
    by_cases h : (lastD kp = sSubType && grandParent kp = sBinary) = true
    · simp [classOf, placeholderOf, h]
    · by_cases hb : cfg.bools = true <;> simp [classOf, placeholderOf, h, hb]
  | num x =>
    by_cases h : (lastD kp = sSubType && grandParent kp = sBinary) = true
    · simp [classOf, placeholderOf, h]
    · by_cases hb : cfg.nums = true <;> simp [classOf, placeholderOf, h, hb]
  | str x =>
    -- the tests of `classOf` in their order, decided for the placeholder as for `x` (by `if_pos` / `if_neg`: rewriting
    -- with `lastD kp = sOid` itself would leave `sOid = sDate` to decide)
    by_cases h1 : lastD kp = sDate
    · simp only [classOf, placeholderOf, if_pos h1]
    by_cases h2 : lastD kp = sOid
    · simp only [classOf, placeholderOf, if_neg h1, if_pos h2]
    by_cases h3 : (lastD kp = sBase64 && grandParent kp = sBinary) = true
    · simp only [classOf, placeholderOf, if_neg h1, if_neg h2, if_pos h3]
    by_cases h4 : (lastD kp = sSubType && grandParent kp = sBinary) = true
    · simp only [classOf, placeholderOf, if_neg h1, if_neg h2, if_neg h3, if_pos h4]
    by_cases h5 : isEmail x = true
    · simp only [classOf, placeholderOf, if_neg h1, if_neg h2, if_neg h3, if_neg h4, if_pos h5, if_pos hph]
    · simp only [classOf, placeholderOf, if_neg h1, if_neg h2, if_neg h3, if_neg h4, if_neg h5, hrepl, Bool.false_eq_true, if_false]

/-- C19 at a leaf: `redactScalarValue` is idempotent on scalars in placeholder mode, provided the replacement
    text is not e-mail shaped (and the e-mail placeholder is) -/
theorem redactScalar_idem (T : Tables) (cfg : Cfg) (hplain : cfg.enc = none)
    (hrepl : isEmail cfg.repl = false) (hph : isEmail T.emailPH = true)
    (kp : List Str) (S sel : Bool) (a : J) (ha : a.isScalar = true) :
    redactScalar T cfg kp (redactScalar T cfg kp a S sel) S sel = redactScalar T cfg kp a S sel := by
  have plain := fun v => redactScalar_plain T cfg hplain kp v S sel
  rw [plain a]
  by_cases hk : keptByPath T cfg kp S sel = true
  · rw [if_pos hk, plain, if_pos hk]
  · rw [if_neg hk, plain, if_neg hk]
    exact placeholder_idem T cfg hrepl hph kp a ha

namespace Ctx

/-- the states in which a walker can be while `--redactNamespaces` is off -/
def St.ok : St → Bool
  | .NsMember => false
  | _ => true

theorem opZone_ok (hi : Bool) (k : Str) : St.ok (opZone hi k) = true :=
  opZone_ind (P := (St.ok · = true)) rfl rfl rfl rfl rfl hi k

theorem child_ok_obj (c : Ctx) (hns : c.cfg.ns = false) (s : St) (kvs : List (Str × J)) (f : Str → J → Str × St)
    (h : c.node s (.obj kvs) = .obj f) (k : Str) (x : J) : St.ok (f k x).2 = true := by
  cases node_obj_inv c h with
  | zone hi => exact opZone_ok hi k
  | nsDoc hn => rw [hns] at hn; cases hn
  | _ => rfl

theorem child_ok_arr (c : Ctx) (s : St) (xs : List J) (s' : St) (h : c.node s (.arr xs) = .arr s') : St.ok s' = true := by
  cases node_arr_inv c h <;> rfl

theorem mode_no_hash (c : Ctx) (hrfn : c.rfn = false) (hns : c.cfg.ns = false) (s : St) (hs : St.ok s = true)
    (v : J) (x : Str) : c.leafMode s v ≠ .hash x := by
  intro h
  rcases (leafMode_inv c s v _ h).2 with h | h | h
  · rw [hrfn] at h; cases h
  · rw [hns] at h; cases h.1
  · subst h; cases hs

/-- the mode of a scalar depends on its value through its JSON type and a leading '$' only:
    another scalar of the same type is handled by the same `redactScalarValue` call, or kept -/
theorem mode_stable (c : Ctx) (hrfn : c.rfn = false) (s : St) (a b : J) (kp : List Str) (S sel : Bool)
    (hk : kindOf a = kindOf b) (h : c.leafMode s a = .scalar kp S sel) :
    c.leafMode s b = .scalar kp S sel ∨ c.leafMode s b = .keep := by
  cases hb : c.leafMode s b with
  | keep => exact Or.inr rfl
  | scalar kp' S' sel' =>
    -- both are the call of the state
    left; rw [← scalar_call c hrfn s b _ _ _ hb, scalar_call c hrfn s a _ _ _ h]
  | hash x =>
    -- a position where one string becomes a pseudonym does so for every string, `a` included
    exfalso
    have hbx := leafMode_hash_inv c s b x hb
    subst hbx
    obtain ⟨y, rfl⟩ := eq_str_of_kind hk
    rw [hash_uniform c hrfn s _ x y hb] at h; cases h

/-- the leaf relation of the fixed-point argument: `b` is what the walker emits for `a`, and the
    walker leaves `b` alone -/
def FixRel (c : Ctx) (s : St) (a b : J) : Prop :=
  b.isScalar = true ∧ kindOf a = kindOf b ∧ b = c.run s a ∧ c.run s b = b

theorem leafSim_fixRel (c : Ctx) : LeafSim c c.FixRel where
  scalar := by
    intro s a b _ h
    obtain ⟨h1, h2, h3, h4⟩ := h
    exact ⟨h1, h2, by rw [h4, h3]⟩

theorem fixRel_run (c : Ctx) (hplain : c.cfg.enc = none) (hrfn : c.rfn = false) (hns : c.cfg.ns = false)
    (hrepl : isEmail c.cfg.repl = false) (hph : isEmail c.T.emailPH = true)
    (s : St) (hs : St.ok s = true) (a : J) (ha : a.isScalar = true) :
    c.FixRel s a (c.run s a) := by
  unfold FixRel
  rw [run_scalar c s a ha]
  cases hm : c.leafMode s a with
  | keep => rw [applyMode_keep]; exact ⟨ha, rfl, rfl, by rw [run_scalar c s a ha, hm]; rfl⟩
  | hash x => exact absurd hm (mode_no_hash c hrfn hns s hs a x)
  | scalar kp S sel =>
    simp only [applyMode_scalar]
    have hk : kindOf (c.scalar kp a S sel) = kindOf a := redactScalar_kind c.T c.cfg kp S sel a ha
    have hsc : (c.scalar kp a S sel).isScalar = true := isScalar_of_kind hk.symm ha
    refine ⟨hsc, hk.symm, trivial, ?_⟩
    rw [run_scalar c s _ hsc]
    rcases mode_stable c hrfn s a (c.scalar kp a S sel) kp S sel hk.symm hm with h2 | h2
    · rw [h2]; simp only [applyMode_scalar, scalar]
      exact redactScalar_idem c.T c.cfg hplain hrepl hph kp S sel a ha
    · rw [h2]; rfl

/-- `relAt_lift` (Lemmas/Rel.lean) with the states reachable while `--redactNamespaces` is off (`St.ok`) as invariant -/
theorem relAt_self_run (c : Ctx) (hplain : c.cfg.enc = none) (hrfn : c.rfn = false) (hns : c.cfg.ns = false)
    (hrepl : isEmail c.cfg.repl = false) (hph : isEmail c.T.emailPH = true) :
    ∀ (s : St) (v : J), St.ok s = true → v.nodup = true → c.RelAt c.FixRel s v (c.run s v) := fun s v hs hn =>
  relAt_lift c hrfn (St.ok · = true) (fun s _ f _ => child_ok_obj c hns s _ f) (fun s _ s' _ => child_ok_arr c s _ s')
    c.FixRel (fun s a hs => fixRel_run c hplain hrfn hns hrepl hph s hs a) s v hs hn

theorem relKVs_self_run (c : Ctx) (hplain : c.cfg.enc = none) (hrfn : c.rfn = false) (hns : c.cfg.ns = false)
    (hrepl : isEmail c.cfg.repl = false) (hph : isEmail c.T.emailPH = true)
    (f : Str → J → Str × St) (hk : ∀ k x, (f k x).1 = k) (hok : ∀ k x, St.ok (f k x).2 = true) :
    ∀ kvs, nodupKVs kvs = true →
      c.RelKVs c.FixRel f kvs (c.runKVs f kvs) ∧ keysOf (c.runKVs f kvs) = keysOf kvs := fun kvs hn =>
  ⟨relKVs_of_mem hk kvs fun k v hm => relAt_self_run c hplain hrfn hns hrepl hph _ v (hok k v) (nodupKVs_mem hn hm),
    keysOf_runKVs c f hk kvs⟩

theorem relList_self_run (c : Ctx) (hplain : c.cfg.enc = none) (hrfn : c.rfn = false) (hns : c.cfg.ns = false)
    (hrepl : isEmail c.cfg.repl = false) (hph : isEmail c.T.emailPH = true) :
    ∀ (s : St) (_ : St.ok s = true) (xs : List J), nodupList xs = true → c.RelList c.FixRel s xs (c.runList s xs) := fun s hs xs hn =>
  relList_of_mem xs fun x hm => relAt_self_run c hplain hrfn hns hrepl hph s x hs (nodupList_mem hn hm)

theorem zoneState_ok (hi hb : Bool) (k : Str) : St.ok (zoneState hi hb k) = true :=
  zoneState_ind (P := (St.ok · = true)) rfl rfl opZone_ok hi hb k

end Ctx
end Anonymongo
