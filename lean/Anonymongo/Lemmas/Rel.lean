/-
  Lemmas/Rel.lean — two trees, one configuration.  `RelAt c R s a b`: `b` has the structure the walk from `s` gives
  `a` — equal where a subtree is copied, same keys / length where it descends, `R` (which knows the state) at scalar
  leaves.  `run_sim`: if `R`-related leaves are emitted alike (`LeafSim`) and related children are walked in the same
  states (`NodeSim`), related trees are emitted alike.  `NodeSim` is free in full-redaction mode (`run_rel`); in
  selective mode it needs more of `R` (Lemmas/RelSel.lean).
  Conversely (`relAt_lift`) a tree is related to its own redaction by any `R` that relates a scalar to what is
  emitted for it.  Both halves give the fixed point (Lemmas/Idem.lean, Props/C19).
-/
import Anonymongo.Lemmas.RunInd
import Anonymongo.Lemmas.ScalarKind
import Anonymongo.Lemmas.Shape
namespace Anonymongo
namespace Ctx

mutual
def RelAt (c : Ctx) (R : St → J → J → Prop) : St → J → J → Prop
  | s, .obj kvs, b =>
    match c.node s (.obj kvs) with
    | .obj f => ∃ kvs', b = .obj kvs' ∧ RelKVs c R f kvs kvs'
    | _ => b = .obj kvs
  | s, .arr xs, b =>
    match c.node s (.arr xs) with
    | .arr s' => ∃ ys, b = .arr ys ∧ RelList c R s' xs ys
    | _ => b = .arr xs
  | s, .null, b => R s .null b
  | s, .bool x, b => R s (.bool x) b
  | s, .num x, b => R s (.num x) b
  | s, .str x, b => R s (.str x) b
def RelKVs (c : Ctx) (R : St → J → J → Prop) (f : Str → J → Str × St) : List (Str × J) → List (Str × J) → Prop
  | [], kvs' => kvs' = []
  | (k, v) :: rest, kvs' =>
    ∃ v' rest', kvs' = (k, v') :: rest' ∧ RelAt c R (f k v).2 v v' ∧ RelKVs c R f rest rest'
def RelList (c : Ctx) (R : St → J → J → Prop) (s : St) : List J → List J → Prop
  | [], ys => ys = []
  | x :: xs, ys => ∃ y ys', ys = y :: ys' ∧ RelAt c R s x y ∧ RelList c R s xs ys'
end

/-- what the leaf relation must guarantee -/
structure LeafSim (c : Ctx) (R : St → J → J → Prop) : Prop where
  scalar : ∀ s a b, a.isScalar = true → R s a b →
    b.isScalar = true ∧ kindOf a = kindOf b ∧ c.run s a = c.run s b

theorem RelKVs_keys (c : Ctx) (R : St → J → J → Prop) (f : Str → J → Str × St) :
    ∀ kvs kvs', RelKVs c R f kvs kvs' → keysOf kvs = keysOf kvs'
  | [], kvs', h => by simp [RelKVs] at h; simp [h]
  | (k, v) :: rest, kvs', h => by
    simp only [RelKVs] at h
    obtain ⟨v', rest', e, _, hr⟩ := h
    subst e
    simp [keysOf_cons, RelKVs_keys c R f rest rest' hr]

def isStrJ : J → Bool
  | .str _ => true
  | _ => false

theorem allStrings_cons (x : J) (xs : List J) : allStrings (x :: xs) = (isStrJ x && allStrings xs) := by
  cases x <;> simp [allStrings, isStrJ]

theorem isStrJ_eq_kind (a : J) : isStrJ a = (kindOf a == 3) := by
  cases a <;> rfl

theorem isStrJ_of_kind (a b : J) (h : kindOf a = kindOf b) : isStrJ a = isStrJ b := by
  rw [isStrJ_eq_kind, isStrJ_eq_kind, h]

theorem relAt_scalar {c : Ctx} {R : St → J → J → Prop} {s : St} {v b : J} (hv : v.isScalar = true)
    (h : RelAt c R s v b) : R s v b := by
  cases v <;> first | exact h | cases hv

theorem relAt_kind (c : Ctx) (R : St → J → J → Prop) (hs : LeafSim c R) (s : St) (a b : J) (h : RelAt c R s a b) :
    kindOf a = kindOf b := by
  by_cases hv : a.isScalar = true
  · exact (hs.scalar s a b hv (relAt_scalar hv h)).2.1
  cases a with
  | obj kvs =>
    simp only [RelAt] at h
    split at h
    · obtain ⟨_, rfl, _⟩ := h; rfl
    all_goals (subst h; rfl)
  | arr xs =>
    simp only [RelAt] at h
    split at h
    · obtain ⟨_, rfl, _⟩ := h; rfl
    all_goals (subst h; rfl)
  | _ => exact absurd rfl hv

theorem isStrJ_scalar {v : J} (h : isStrJ v = true) : v.isScalar = true := by
  cases v <;> first | rfl | cases h

theorem RelList_allStrings (c : Ctx) (R : St → J → J → Prop) (hs : LeafSim c R) (s : St) :
    ∀ xs ys, RelList c R s xs ys → allStrings xs = allStrings ys
  | [], _, h => by simp only [RelList] at h; rw [h]
  | x :: xs, _, h => by
    simp only [RelList] at h
    obtain ⟨y, ys', rfl, h1, hr⟩ := h
    rw [allStrings_cons, allStrings_cons, isStrJ_of_kind x y (relAt_kind c R hs s x y h1), RelList_allStrings c R hs s xs ys' hr]

/-- what the walker's transitions must respect for related inputs to be walked through the same states: the state of a
    child may depend on the child's value (`augment`), the state of the elements of an array on `selArr` of the array -/
structure NodeSim (c : Ctx) (R : St → J → J → Prop) : Prop where
  child : ∀ s kvs f, c.node s (.obj kvs) = .obj f → ∀ k v v', RelAt c R (f k v).2 v v' → f k v' = f k v
  sel : ∀ S pk sel kp xs ys, RelList c R (.AElem S pk sel kp) xs ys → c.selArr xs = c.selArr ys

/-- related arrays get the same action.  Besides `selArr`, `node` looks at an array through `allStrings` (the
    `!c.rfn && allStrings xs` test of the `FieldName` arms: a list of field names is copied while field names are
    kept), on which related arrays agree because related leaves have the same JSON type -/
theorem NodeSim.arr {c : Ctx} {R : St → J → J → Prop} (hN : NodeSim c R) (hs : LeafSim c R) {s : St} {xs ys : List J} {s' : St}
    (hn : c.node s (.arr xs) = .arr s') (hr : RelList c R s' xs ys) : c.node s (.arr ys) = .arr s' := by
  rcases node_arr_elem c hn with h | ⟨S, pk, kp, rfl⟩
  · exact h ys
  · rw [← node_arr_congr c s xs ys (RelList_allStrings c R hs _ xs ys hr) (hN.sel S pk _ kp xs ys hr)]; exact hn

section
variable (c : Ctx) (R : St → J → J → Prop)

theorem runKVs_congr_rel (f : Str → J → Str × St) (hchild : ∀ k v v', RelAt c R (f k v).2 v v' → f k v' = f k v) :
    ∀ kvs kvs', RelKVs c R f kvs kvs' →
      (∀ k v, (k, v) ∈ kvs → ∀ b, RelAt c R (f k v).2 v b → c.run (f k v).2 v = c.run (f k v).2 b) →
      c.runKVs f kvs = c.runKVs f kvs'
  | [], _, h, _ => by simp only [RelKVs] at h; rw [h]
  | (k, v) :: rest, _, h, ih => by
    simp only [RelKVs] at h
    obtain ⟨v', rest', rfl, h1, hr⟩ := h
    simp only [runKVs, hchild k v v' h1, ← ih k v (.head _) v' h1,
      runKVs_congr_rel f hchild rest rest' hr fun k v hm => ih k v (.tail _ hm)]

theorem runList_congr_rel (s : St) : ∀ xs ys, RelList c R s xs ys →
    (∀ x, x ∈ xs → ∀ b, RelAt c R s x b → c.run s x = c.run s b) → c.runList s xs = c.runList s ys
  | [], _, h, _ => by simp only [RelList] at h; rw [h]
  | x :: xs, _, h, ih => by
    simp only [RelList] at h
    obtain ⟨y, ys', rfl, h1, hr⟩ := h
    simp only [runList, ih x (.head _) y h1, runList_congr_rel s xs ys' hr fun x hm => ih x (.tail _ hm)]

variable (hs : LeafSim c R) (hN : NodeSim c R)
include hs hN

theorem run_sim (s : St) (a : J) : ∀ b, RelAt c R s a b → c.run s a = c.run s b := by
  refine run_induction_scalar c (M := fun s a o => ∀ b, RelAt c R s a b → o = c.run s b) ?_ ?_ ?_ ?_ s a
  · intro s v hv b hr
    exact (hs.scalar s v b hv (relAt_scalar hv hr)).2.2
  · intro s v hv h b hr
    cases v <;> simp only [RelAt, h] at hr <;> first | rw [hr, run_of_keep c h] | cases hv
  · intro s kvs f hf ih b hr
    simp only [RelAt, hf] at hr
    obtain ⟨kvs', rfl, hr⟩ := hr
    rw [run_of_obj c (node_obj_keys c s kvs kvs' (RelKVs_keys c R f kvs kvs' hr) ▸ hf),
      runKVs_congr_rel c R f (hN.child s kvs f hf) kvs kvs' hr ih]
  · intro s xs s' hs' ih b hr
    simp only [RelAt, hs'] at hr
    obtain ⟨ys, rfl, hr⟩ := hr
    rw [run_of_arr c (hN.arr hs hs' hr), runList_congr_rel c R s' xs ys hr ih]

theorem runKVs_sim (f : Str → J → Str × St) (hchild : ∀ k v v', RelAt c R (f k v).2 v v' → f k v' = f k v)
    (kvs kvs' : List (Str × J)) (h : RelKVs c R f kvs kvs') : c.runKVs f kvs = c.runKVs f kvs' :=
  runKVs_congr_rel c R f hchild kvs kvs' h fun _ v _ => run_sim c R hs hN _ v

theorem runList_sim (s : St) (xs ys : List J) (h : RelList c R s xs ys) : c.runList s xs = c.runList s ys :=
  runList_congr_rel c R s xs ys h fun x _ => run_sim c R hs hN s x
end

theorem nodeSim_full (c : Ctx) (hre : c.cfg.re = none) (R : St → J → J → Prop) : NodeSim c R where
  child := fun s kvs f hn k v v' _ => node_obj_indep c hre s kvs f hn k v' v
  sel := fun _ _ _ _ xs ys _ => (selArr_none c hre xs).trans (selArr_none c hre ys).symm

/-- C02, walker level (Props/C02) -/
theorem run_rel (c : Ctx) (hre : c.cfg.re = none) (R : St → J → J → Prop) (hs : LeafSim c R) :
    ∀ (s : St) (a b : J), RelAt c R s a b → c.run s a = c.run s b ∧ kindOf a = kindOf b :=
  fun s a b h => ⟨run_sim c R hs (nodeSim_full c hre R) s a b h, relAt_kind c R hs s a b h⟩

theorem runKVs_rel (c : Ctx) (hre : c.cfg.re = none) (R : St → J → J → Prop) (hs : LeafSim c R)
    (f : Str → J → Str × St) (hi : ∀ k x y, f k x = f k y) :
    ∀ kvs kvs', RelKVs c R f kvs kvs' → c.runKVs f kvs = c.runKVs f kvs' :=
  runKVs_sim c R hs (nodeSim_full c hre R) f (fun k v v' _ => hi k v' v)

theorem runList_rel (c : Ctx) (hre : c.cfg.re = none) (R : St → J → J → Prop) (hs : LeafSim c R) :
    ∀ (s : St) (xs ys : List J), RelList c R s xs ys →
      c.runList s xs = c.runList s ys ∧ allStrings xs = allStrings ys :=
  fun s xs ys h => ⟨runList_sim c R hs (nodeSim_full c hre R) s xs ys h, RelList_allStrings c R hs s xs ys h⟩

section
variable {c : Ctx} {R : St → J → J → Prop}

theorem relKVs_of_mem {f : Str → J → Str × St} (hk : ∀ k x, (f k x).1 = k) :
    ∀ kvs, (∀ k v, (k, v) ∈ kvs → c.RelAt R (f k v).2 v (c.run (f k v).2 v)) → c.RelKVs R f kvs (c.runKVs f kvs)
  | [], _ => rfl
  | (k, v) :: rest, h => by
    simp only [RelKVs, runKVs, hk]
    exact ⟨_, _, rfl, h k v (.head _), relKVs_of_mem hk rest fun k v hm => h k v (.tail _ hm)⟩

theorem relList_of_mem {s : St} : ∀ xs, (∀ x, x ∈ xs → c.RelAt R s x (c.run s x)) → c.RelList R s xs (c.runList s xs)
  | [], _ => rfl
  | x :: xs, h => ⟨_, _, rfl, h x (.head _), relList_of_mem xs fun x hm => h x (.tail _ hm)⟩
end

theorem relAt_lift (c : Ctx) (hrfn : c.rfn = false) (I : St → Prop)
    (hIobj : ∀ s kvs f, I s → c.node s (.obj kvs) = .obj f → ∀ k x, I (f k x).2)
    (hIarr : ∀ s xs s', I s → c.node s (.arr xs) = .arr s' → I s')
    (R : St → J → J → Prop) (hR : ∀ s a, I s → a.isScalar = true → R s a (c.run s a))
    (s : St) (v : J) : I s → v.nodup = true → c.RelAt R s v (c.run s v) := by
  refine run_induction_scalar c (M := fun s v o => I s → v.nodup = true → c.RelAt R s v o) ?_ ?_ ?_ ?_ s v
  · intro s v hv hi _
    cases v <;> first | exact hR s _ hi rfl | cases hv
  · intro s v hv h _ _
    cases v with
    | obj | arr => simp only [RelAt, h]
    | _ => cases hv
  · intro s kvs f hf ih hi hn
    simp only [J.nodup, Bool.and_eq_true] at hn
    have hk := keys_of_noRfn c hrfn s _ f hf
    simp only [RelAt, hf, fromPairs_runKVs c f hk kvs hn.1]
    exact ⟨_, rfl, relKVs_of_mem hk kvs fun k v hm => ih k v hm (hIobj s kvs f hi hf k v) (nodupKVs_mem hn.2 hm)⟩
  · intro s xs s' hs' ih hi hn
    simp only [RelAt, hs']
    exact ⟨_, rfl, relList_of_mem xs fun x hm => ih x hm (hIarr s xs s' hi hs') (nodupList_mem hn hm)⟩

/-- the lifting behind C14 (Props/C14) -/
theorem relAt_run (c : Ctx) (hrfn : c.rfn = false) (R : St → J → J → Prop)
    (hR : ∀ s a, a.isScalar = true → R s a (c.run s a)) :
    ∀ (s : St) (v : J), v.nodup = true → c.RelAt R s v (c.run s v) := fun s v =>
  relAt_lift c hrfn (fun _ => True) (fun _ _ _ _ _ _ _ => trivial) (fun _ _ _ _ _ => trivial) R (fun s a _ => hR s a) s v trivial

theorem relKVs_run (c : Ctx) (hrfn : c.rfn = false) (R : St → J → J → Prop)
    (hR : ∀ s a, a.isScalar = true → R s a (c.run s a))
    (f : Str → J → Str × St) (hk : ∀ k x, (f k x).1 = k) :
    ∀ kvs, nodupKVs kvs = true →
      c.RelKVs R f kvs (c.runKVs f kvs) ∧ keysOf (c.runKVs f kvs) = keysOf kvs := fun kvs hn =>
  ⟨relKVs_of_mem hk kvs fun _ v hm => relAt_run c hrfn R hR _ v (nodupKVs_mem hn hm), keysOf_runKVs c f hk kvs⟩

theorem relList_run (c : Ctx) (hrfn : c.rfn = false) (R : St → J → J → Prop)
    (hR : ∀ s a, a.isScalar = true → R s a (c.run s a)) :
    ∀ (s : St) (xs : List J), nodupList xs = true → c.RelList R s xs (c.runList s xs) := fun s xs hn =>
  relList_of_mem xs fun x hm => relAt_run c hrfn R hR s x (nodupList_mem hn hm)

end Ctx
end Anonymongo
