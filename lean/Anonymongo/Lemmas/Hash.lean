/-
  Lemmas/Hash.lean — facts about the definitions of Model/Hash.lean: the length and the digits of `hex16` of a digest, and
  the algebra of `splitOn` / `intercalate` / `trimLeftDollar` that `hashName` and the plan-summary rewriter rest on.
-/
import Anonymongo.Model.Hash
namespace Anonymongo

theorem sha256_length (m : List UInt8) : (sha256 m).length = 32 := by
  simp [sha256, Sha256.stBytes, Sha256.be32bytes]

theorem hex16_length (d : List UInt8) (h : 8 ≤ d.length) : (hex16 d).length = 16 := by
  unfold hex16
  have : ∀ (l : List UInt8), (l.flatMap hexByte).length = 2 * l.length := by
    intro l; induction l with
    | nil => simp
    | cons a t ih => simp [List.flatMap_cons, hexByte, ih]; omega
  rw [this, List.length_take]; omega

/-- the digits of a pseudonym, as C13 words them -/
def isLowerHex (c : Char) : Bool := ('0' ≤ c && c ≤ '9') || ('a' ≤ c && c ≤ 'f')

theorem hexDigit_lower : ∀ n, n < 16 → isLowerHex (hexDigit n) = true := by
  decide

theorem hexByte_lower (b : UInt8) : (hexByte b).all isLowerHex = true := by
  have h1 : b.toNat / 16 < 16 := by have := b.toNat_lt; omega
  have h2 : b.toNat % 16 < 16 := Nat.mod_lt _ (by decide)
  simp [hexByte, hexDigit_lower _ h1, hexDigit_lower _ h2]

theorem hex16_lower (d : List UInt8) : (hex16 d).all isLowerHex = true := by
  unfold hex16
  induction d.take 8 with
  | nil => simp
  | cons a t ih => simp [List.flatMap_cons, List.all_append, hexByte_lower, ih]

theorem splitOn_ne_nil (sep : Char) : ∀ s, splitOn sep s ≠ []
  | [] => by simp [splitOn]
  | c :: rest => by
    unfold splitOn
    split
    · simp
    · split <;> simp

theorem splitOn_append (sep : Char) : ∀ a b, splitOn sep (a ++ sep :: b) = splitOn sep a ++ splitOn sep b
  | [], b => by simp [splitOn]
  | c :: a, b => by
    have ih := splitOn_append sep a b
    by_cases h : c = sep
    · subst h; simp [splitOn, ih]
    · simp only [List.cons_append, splitOn, h, if_false, ih]
      cases hs : splitOn sep a with
      | nil => exact absurd hs (splitOn_ne_nil sep a)
      | cons x xs => simp

theorem intercalate_append (sep : Str) : ∀ xs ys, xs ≠ [] → ys ≠ [] →
    intercalate sep (xs ++ ys) = intercalate sep xs ++ sep ++ intercalate sep ys
  | [], _, h, _ => absurd rfl h
  | [x], y :: ys, _, _ => by simp [intercalate]
  | x :: x' :: xs, ys, _, hy => by
    have ih := intercalate_append sep (x' :: xs) ys (by simp) hy
    simp only [List.cons_append] at ih ⊢
    simp [intercalate, ih]
  | [_], [], _, h => absurd rfl h

theorem mem_intercalate (sep : Str) (c : Char) : ∀ (xs : List Str), c ∈ intercalate sep xs → c ∈ sep ∨ ∃ x ∈ xs, c ∈ x
  | [], hc => by simp [intercalate] at hc
  | [x], hc => .inr ⟨x, by simp, hc⟩
  | x :: y :: t, hc => by
    simp only [intercalate, List.mem_append] at hc
    rcases hc with (hc | hc) | hc
    · exact .inr ⟨x, by simp, hc⟩
    · exact .inl hc
    · rcases mem_intercalate sep c (y :: t) hc with h | ⟨z, hz, h⟩
      · exact .inl h
      · exact .inr ⟨z, by simp [hz], h⟩

theorem intercalate_ne_nil (sep x : Str) (xs : List Str) (hx : x ≠ []) : intercalate sep (x :: xs) ≠ [] := by
  cases xs <;> simp [intercalate, hx]

theorem splitOn_nosep (sep : Char) : ∀ (x : Str), (∀ c ∈ x, c ≠ sep) → splitOn sep x = [x]
  | [], _ => rfl
  | a :: x, h => by
    have ha : a ≠ sep := h a (by simp)
    simp only [splitOn, ha, if_false, splitOn_nosep sep x (fun c hc => h c (by simp [hc]))]

theorem splitOn_intercalate (sep : Char) : ∀ (xs : List Str), xs ≠ [] → (∀ x ∈ xs, ∀ c ∈ x, c ≠ sep) →
    splitOn sep (intercalate [sep] xs) = xs
  | [], h, _ => absurd rfl h
  | [x], _, hx => by simp only [intercalate]; exact splitOn_nosep sep x (hx x (by simp))
  | x :: y :: rest, _, hx => by
    simp only [intercalate, List.append_assoc, List.singleton_append]
    rw [splitOn_append, splitOn_nosep sep x (hx x (by simp)),
      splitOn_intercalate sep (y :: rest) (by simp) (fun z hz => hx z (by simp [hz]))]
    rfl

theorem dollarPrefixed_cons (c : Char) (x : Str) : dollarPrefixed (c :: x) = decide (c = '$') := by
  by_cases h : c = '$'
  · subst h; rfl
  · unfold dollarPrefixed; split
    · rename_i heq; injection heq with e _; exact absurd e h
    · simp [h]

theorem trimLeftDollar_cons_ne {c : Char} (h : c ≠ '$') (s : Str) : trimLeftDollar (c :: s) = c :: s := by
  unfold trimLeftDollar; split
  · rename_i heq; injection heq with h1 _; exact absurd h1 h
  · rfl

theorem trimLeftDollar_of_not_dollar (s : Str) (h : dollarPrefixed s = false) : trimLeftDollar s = s := by
  cases s with
  | nil => rfl
  | cons c r =>
    rw [dollarPrefixed_cons, decide_eq_false_iff_not] at h
    exact trimLeftDollar_cons_ne h r

theorem trimLeftDollar_append_dot (b : Str) : ∀ a : Str, trimLeftDollar (a ++ '.' :: b) = trimLeftDollar a ++ '.' :: b
  | [] => rfl
  | c :: t => by
    by_cases h : c = '$'
    · subst h; exact trimLeftDollar_append_dot b t
    · rw [List.cons_append, trimLeftDollar_cons_ne h, trimLeftDollar_cons_ne h, List.cons_append]

end Anonymongo
