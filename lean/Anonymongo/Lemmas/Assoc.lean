/-
  Lemmas/Assoc.lean — association lists `List (Str × α)` read as ordered maps, for any value type: `lookup` (`Get`), `setKV` (`Set`),
  `fromPairs`, `keysOf`.  "No key twice" is `nodupKeys (keysOf l) = true`, here and in Props/Src (the Boolean that `J.nodup`,
  Spec/Shape, is written with); `nodupKeys_iff_nodup` is the one bridge to core's `List.Nodup`, through which the facts about
  appends (`nodupKeys_append`) and about lists of literal keys (`nodupKeys_toList`) come from core.
  The key-wise value map `mapVals` (values in `J`) is in Lemmas/LineAlg.
-/
import Anonymongo.Model.Json
namespace Anonymongo

def nodupKeys : List Str → Bool
  | [] => true
  | k :: ks => !ks.contains k && nodupKeys ks

theorem nodupKeys_cons (k : Str) (ks : List Str) : nodupKeys (k :: ks) = true ↔ k ∉ ks ∧ nodupKeys ks = true := by
  simp [nodupKeys]

theorem nodupKeys_iff_nodup : ∀ (ks : List Str), nodupKeys ks = true ↔ ks.Nodup
  | [] => ⟨fun _ => List.nodup_nil, fun _ => rfl⟩
  | k :: ks => (nodupKeys_cons k ks).trans ((and_congr_right' (nodupKeys_iff_nodup ks)).trans List.nodup_cons.symm)

theorem nodupKeys_append (a b : List Str) :
    nodupKeys (a ++ b) = true ↔ nodupKeys a = true ∧ nodupKeys b = true ∧ ∀ k ∈ a, k ∉ b := by
  rw [nodupKeys_iff_nodup, nodupKeys_iff_nodup, nodupKeys_iff_nodup, List.nodup_append]
  exact and_congr_right' (and_congr_right' ⟨fun h k ha hb => h k ha k hb rfl, fun h k ha _ hb e => h k ha (e ▸ hb)⟩)

theorem keysOf_cons {α} (k : Str) (v : α) (r : List (Str × α)) : keysOf ((k, v) :: r) = k :: keysOf r := rfl

variable {α : Type}

theorem keysOf_append (a b : List (Str × α)) : keysOf (a ++ b) = keysOf a ++ keysOf b := List.map_append

theorem mem_keysOf {k : Str} {x : α} {l : List (Str × α)} (h : (k, x) ∈ l) : k ∈ keysOf l :=
  List.mem_map_of_mem (f := (·.1)) h

theorem lookup_cons (k a : Str) (w : α) (rest : List (Str × α)) :
    lookup k ((a, w) :: rest) = if a = k then some w else lookup k rest := rfl

theorem isSome_lookup (k : Str) : ∀ (l : List (Str × α)), (lookup k l).isSome = (keysOf l).contains k
  | [] => rfl
  | (a, w) :: rest => by
    rw [lookup_cons, keysOf_cons, List.contains_cons]
    by_cases ha : a = k
    · rw [if_pos ha, ha, beq_self_eq_true]; rfl
    · rw [if_neg ha, beq_false_of_ne (Ne.symm ha), Bool.false_or]; exact isSome_lookup k rest

theorem isSome_lookup_of_keysOf {β : Type} (k : Str) (a : List (Str × α)) (b : List (Str × β)) (h : keysOf a = keysOf b) :
    (lookup k a).isSome = (lookup k b).isSome := by
  rw [isSome_lookup, isSome_lookup, h]

theorem lookup_eq_none_iff {k : Str} {l : List (Str × α)} : lookup k l = none ↔ k ∉ keysOf l := by
  rw [← Option.not_isSome_iff_eq_none, isSome_lookup, List.contains_iff_mem]

theorem mem_of_lookup {k : Str} {x : α} : ∀ {l : List (Str × α)}, lookup k l = some x → (k, x) ∈ l
  | [], h => by cases h
  | (a, w) :: rest, h => by
    rw [lookup_cons] at h
    by_cases ha : a = k
    · rw [if_pos ha] at h; cases h; subst ha; exact List.mem_cons_self
    · rw [if_neg ha] at h; exact List.mem_cons_of_mem _ (mem_of_lookup h)

theorem lookup_of_mem {k : Str} {x : α} : ∀ {l : List (Str × α)}, nodupKeys (keysOf l) = true → (k, x) ∈ l → lookup k l = some x
  | [], _, h => by cases h
  | (a, w) :: rest, hnd, h => by
    have hnd' := (nodupKeys_cons a (keysOf rest)).mp hnd
    rw [lookup_cons]
    by_cases ha : a = k
    · rw [if_pos ha]
      rcases List.mem_cons.mp h with e | e
      · cases e; rfl
      · exact absurd (mem_keysOf e) (ha ▸ hnd'.1)
    · rw [if_neg ha]
      rcases List.mem_cons.mp h with e | e
      · cases e; exact absurd rfl ha
      · exact lookup_of_mem hnd'.2 e

/-- two lists with the same entries, one of them with distinct keys, look up alike (whatever the order) -/
theorem lookup_congr (l1 l2 : List (Str × α)) (hnd : nodupKeys (keysOf l1) = true)
    (h12 : ∀ r ∈ l1, r ∈ l2) (h21 : ∀ r ∈ l2, r ∈ l1) (k : Str) : lookup k l2 = lookup k l1 := by
  cases h2 : lookup k l2 with
  | some x => exact (lookup_of_mem hnd (h21 _ (mem_of_lookup h2))).symm
  | none =>
    cases h1 : lookup k l1 with
    | none => rfl
    | some x => exact absurd (mem_keysOf (h12 _ (mem_of_lookup h1))) (lookup_eq_none_iff.mp h2)

theorem lookup_append (k : Str) : ∀ (l1 l2 : List (Str × α)), lookup k (l1 ++ l2) = (lookup k l1).or (lookup k l2)
  | [], l2 => (Option.none_or).symm
  | (a, w) :: rest, l2 => by
    rw [List.cons_append, lookup_cons, lookup_cons]
    by_cases ha : a = k
    · rw [if_pos ha, if_pos ha]; rfl
    · rw [if_neg ha, if_neg ha]; exact lookup_append k rest l2

theorem lookup_map_const (x : α) (k : Str) : ∀ (ks : List Str),
    lookup k (ks.map (fun a => (a, x))) = if ks.contains k = true then some x else none
  | [] => rfl
  | a :: ks => by
    rw [List.map_cons, lookup_cons, List.contains_cons]
    by_cases ha : a = k
    · subst ha; rw [if_pos rfl, beq_self_eq_true, Bool.true_or, if_pos rfl]
    · rw [if_neg ha, lookup_map_const x k ks, beq_false_of_ne (Ne.symm ha), Bool.false_or]

theorem lookup_map_snd {α β} (f : Str → α → β) (k : Str) : ∀ (l : List (Str × α)),
    lookup k (l.map fun p => (p.1, f p.1 p.2)) = (lookup k l).map (f k)
  | [] => rfl
  | (k', v) :: rest => by
    rw [List.map_cons, lookup_cons, lookup_cons, lookup_map_snd f k rest]
    by_cases h : k' = k
    · rw [if_pos h, if_pos h, h]; rfl
    · rw [if_neg h, if_neg h]

/-! `Set`: in place on the first binding of the key, at the end when there is none -/

theorem setKV_not_mem (k : Str) (v : α) : ∀ (l : List (Str × α)), k ∉ keysOf l → setKV k v l = l ++ [(k, v)]
  | [], _ => rfl
  | (k', v') :: rest, h => by
    rw [setKV, if_neg fun (e : k' = k) => h (e ▸ List.mem_cons_self), setKV_not_mem k v rest fun e => h (List.mem_cons_of_mem _ e)]
    rfl

theorem keysOf_setKV_mem (k : Str) (v : α) : ∀ (l : List (Str × α)), k ∈ keysOf l → keysOf (setKV k v l) = keysOf l
  | [], h => by cases h
  | (k', v') :: rest, h => by
    rw [setKV]
    by_cases e : k' = k
    · rw [if_pos e]; rfl
    · rw [if_neg e, keysOf_cons, keysOf_cons,
        keysOf_setKV_mem k v rest ((List.mem_cons.mp h).resolve_left fun e' => e e'.symm)]

theorem setKV_nodupKeys (k : Str) (v : α) (l : List (Str × α)) (h : nodupKeys (keysOf l) = true) :
    nodupKeys (keysOf (setKV k v l)) = true := by
  by_cases hk : k ∈ keysOf l
  · rw [keysOf_setKV_mem k v l hk]; exact h
  · rw [setKV_not_mem k v l hk, keysOf_append]
    exact (nodupKeys_append _ _).mpr ⟨h, rfl, fun a ha hb => hk ((List.mem_singleton.mp hb : a = k) ▸ ha)⟩

theorem lookup_setKV_same (k : Str) (v : α) : ∀ (l : List (Str × α)), lookup k (setKV k v l) = some v
  | [] => by rw [setKV, lookup_cons, if_pos rfl]
  | (a, w) :: rest => by
    rw [setKV]
    by_cases h1 : a = k
    · rw [if_pos h1, lookup_cons, if_pos h1]
    · rw [if_neg h1, lookup_cons, if_neg h1, lookup_setKV_same k v rest]

theorem lookup_setKV_ne (k k' : Str) (v : α) (h : k ≠ k') : ∀ (l : List (Str × α)), lookup k (setKV k' v l) = lookup k l
  | [] => by rw [setKV, lookup_cons, if_neg (Ne.symm h)]
  | (a, w) :: rest => by
    rw [setKV]
    by_cases h1 : a = k'
    · rw [if_pos h1, lookup_cons, lookup_cons, if_neg (h1 ▸ Ne.symm h), if_neg (h1 ▸ Ne.symm h)]
    · rw [if_neg h1, lookup_cons, lookup_cons, lookup_setKV_ne k k' v h rest]

theorem setKV_setKV (k : Str) (a b : α) : ∀ (l : List (Str × α)), setKV k a (setKV k b l) = setKV k a l
  | [] => by
    show (if k = k then [(k, a)] else (k, b) :: setKV k a []) = [(k, a)]
    rw [if_pos rfl]
  | (k', v) :: rest => by
    rw [setKV]
    by_cases h : k' = k
    · rw [if_pos h, setKV, setKV, if_pos h, if_pos h]
    · rw [if_neg h, setKV, setKV, if_neg h, if_neg h, setKV_setKV k a b rest]

theorem setKV_mid (k : Str) (v v' : α) : ∀ (pre rest : List (Str × α)), k ∉ keysOf pre →
    setKV k v (pre ++ (k, v') :: rest) = pre ++ (k, v) :: rest
  | [], _, _ => by rw [List.nil_append, setKV, if_pos rfl]; rfl
  | (k', w) :: pre, rest, h => by
    have hne : ¬ k' = k := fun e => h (e ▸ List.mem_cons_self)
    rw [List.cons_append, setKV, if_neg hne, setKV_mid k v v' pre rest (fun e => h (List.mem_cons_of_mem _ e))]
    rfl

theorem mem_setKV (k : Str) (v : α) : ∀ (l : List (Str × α)) (p : Str × α), p ∈ setKV k v l → p.2 = v ∨ p ∈ l
  | [], p, h => .inl (by rw [List.mem_singleton.mp h])
  | (k', v') :: rest, p, h => by
    rw [setKV] at h
    split at h
    · exact (List.mem_cons.mp h).elim (fun e => .inl (by rw [e])) (fun e => .inr (List.mem_cons_of_mem _ e))
    · exact (List.mem_cons.mp h).elim (fun e => .inr (e ▸ List.mem_cons_self))
        (fun e => (mem_setKV k v rest p e).imp_right (List.mem_cons_of_mem _))

/-- `Get` and `Set` both act on the first binding -/
theorem setKV_lookup {k : Str} {v : α} : ∀ {l : List (Str × α)}, lookup k l = some v → setKV k v l = l
  | [], h => by cases h
  | (a, w) :: rest, h => by
    rw [lookup_cons] at h; rw [setKV]
    by_cases ha : a = k
    · rw [if_pos ha] at h ⊢; cases h; rfl
    · rw [if_neg ha] at h ⊢; rw [setKV_lookup h]

theorem foldl_setKV_fresh : ∀ (ps acc : List (Str × α)), nodupKeys (keysOf acc ++ keysOf ps) = true →
    ps.foldl (fun acc p => setKV p.1 p.2 acc) acc = acc ++ ps
  | [], acc, _ => (List.append_nil acc).symm
  | (k, v) :: rest, acc, h => by
    have hk : k ∉ keysOf acc := fun hm => ((nodupKeys_append _ _).mp h).2.2 k hm List.mem_cons_self
    rw [List.foldl_cons, setKV_not_mem k v acc hk, foldl_setKV_fresh rest (acc ++ [(k, v)]), List.append_assoc]
    · rfl
    · rw [keysOf_append, List.append_assoc]; exact h

/-- with distinct keys, rebuilding a map by successive `Set`s gives the list itself -/
theorem fromPairs_of_nodup {α} (ps : List (Str × α)) (h : nodupKeys (keysOf ps) = true) : fromPairs ps = ps :=
  (foldl_setKV_fresh ps [] h).trans (List.nil_append ps)

/-! Keys are written `"…".toList`.  Comparing two different ones by `rfl` or `decide` evaluates the UTF-8 decoding of both; compared as
    `String` literals (`by simp only [String.reduceNe]`, `by decide`) they cost next to nothing, and `String.toList` is injective. -/

theorem toList_ne {a b : String} (h : a ≠ b) : a.toList ≠ b.toList := fun e => h (String.toList_inj.mp e)

theorem toList_not_mem {a : String} {l : List String} (h : a ∉ l) : a.toList ∉ l.map String.toList := fun hm =>
  have ⟨_, hb, e⟩ := List.mem_map.mp hm
  h (String.toList_inj.mp e ▸ hb)

/-- `ks` is the list written with the NAMES of the key constants; `e` unfolds the names and is `rfl`; `nodupKeys` is evaluated on
    neither list -/
theorem nodupKeys_toList {l : List String} (h : l.Nodup) {ks : List Str} (e : ks = l.map String.toList) : nodupKeys ks = true :=
  e ▸ (nodupKeys_iff_nodup _).mpr (List.Pairwise.map String.toList (fun _ _ h e => h (String.toList_inj.mp e)) h)

end Anonymongo
