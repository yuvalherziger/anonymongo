/-
  Lemmas/Shape.lean — facts about the definitions of Spec/Shape.lean: `J.nodup` passes to the members of a
  container; `shapeEq` is transitive, transfers `J.nodup`, and holds of a list mapped member by member to values of
  the same shape.  On top of them `run_shape`: a configuration whose walkers never rename a key and replace scalars
  by values of the same shape (`ShapeOK`; Lemmas/ModeChar shows it for field-name redaction off) preserves the shape
  of every tree without duplicate sibling keys.
-/
import Anonymongo.Spec.Shape
import Anonymongo.Lemmas.RunInd
namespace Anonymongo

theorem nodupKVs_mem : ∀ {kvs : List (Str × J)}, nodupKVs kvs = true → ∀ {k v}, (k, v) ∈ kvs → v.nodup = true
  | (_, _) :: _, h, _, _, .head _ => by simp only [nodupKVs, Bool.and_eq_true] at h; exact h.1
  | (_, _) :: _, h, _, _, .tail _ hm => nodupKVs_mem (by simp only [nodupKVs, Bool.and_eq_true] at h; exact h.2) hm

theorem nodupList_mem : ∀ {xs : List J}, nodupList xs = true → ∀ {x}, x ∈ xs → x.nodup = true
  | _ :: _, h, _, .head _ => by simp only [nodupList, Bool.and_eq_true] at h; exact h.1
  | _ :: _, h, _, .tail _ hm => nodupList_mem (by simp only [nodupList, Bool.and_eq_true] at h; exact h.2) hm

/-! A hypothesis `shapeEq a b = true` between different constructors is closed by `cases` (it evaluates to
    `false = true`); `simp [shapeEq]` would have to discharge the side conditions of the catch-all equation. -/

theorem shapeEqList_trans_of : ∀ (a b c : List J), (∀ x, x ∈ a → ∀ y z, shapeEq x y = true → shapeEq y z = true → shapeEq x z = true) →
    shapeEqList a b = true → shapeEqList b c = true → shapeEqList a c = true
  | [], b, c, _, h1, h2 => by
    cases b <;> first | cases h1 | skip
    cases c <;> first | rfl | cases h2
  | x :: xs, b, c, ih, h1, h2 => by
    cases b <;> first | cases h1 | skip
    cases c <;> first | cases h2 | skip
    simp only [shapeEqList, Bool.and_eq_true] at h1 h2 ⊢
    exact ⟨ih x (.head _) _ _ h1.1 h2.1, shapeEqList_trans_of xs _ _ (fun x hx => ih x (.tail _ hx)) h1.2 h2.2⟩

theorem shapeEqKVs_trans_of : ∀ (a b c : List (Str × J)),
    (∀ k x, (k, x) ∈ a → ∀ y z, shapeEq x y = true → shapeEq y z = true → shapeEq x z = true) →
    shapeEqKVs a b = true → shapeEqKVs b c = true → shapeEqKVs a c = true
  | [], b, c, _, h1, h2 => by
    cases b <;> first | cases h1 | skip
    cases c <;> first | rfl | cases h2
  | (k, x) :: xs, b, c, ih, h1, h2 => by
    rcases b with _ | ⟨⟨kb, vb⟩, tb⟩ <;> first | cases h1 | skip
    rcases c with _ | ⟨⟨kc, vc⟩, tc⟩ <;> first | cases h2 | skip
    simp only [shapeEqKVs, Bool.and_eq_true, beq_iff_eq] at h1 h2 ⊢
    exact ⟨⟨h1.1.1.trans h2.1.1, ih k x (.head _) _ _ h1.1.2 h2.1.2⟩,
      shapeEqKVs_trans_of xs _ _ (fun k x hx => ih k x (.tail _ hx)) h1.2 h2.2⟩

theorem shapeEq_trans : ∀ a b c, shapeEq a b = true → shapeEq b c = true → shapeEq a c = true := by
  intro a
  induction a using J.induction with
  | scalar a ha =>
    intro b c h1 h2
    cases a <;> first | cases ha | skip
    all_goals
      cases b <;> first | cases h1 | skip
      cases c <;> first | rfl | cases h2
  | arr xs ih =>
    intro b c h1 h2
    cases b <;> first | cases h1 | skip
    cases c <;> first | cases h2 | skip
    exact shapeEqList_trans_of xs _ _ ih h1 h2
  | obj kvs ih =>
    intro b c h1 h2
    cases b <;> first | cases h1 | skip
    cases c <;> first | cases h2 | skip
    exact shapeEqKVs_trans_of kvs _ _ ih h1 h2

theorem shapeEqList_trans : ∀ a b c, shapeEqList a b = true → shapeEqList b c = true → shapeEqList a c = true :=
  fun a b c => shapeEqList_trans_of a b c fun x _ => shapeEq_trans x

theorem keysOf_eq_of_shapeEqKVs : ∀ a b, shapeEqKVs a b = true → keysOf a = keysOf b
  | [], b, h => by cases b <;> simp_all [shapeEqKVs, keysOf]
  | (k, x) :: xs, b, h => by
    cases b with
    | nil => simp [shapeEqKVs] at h
    | cons hb tb =>
      obtain ⟨kb, vb⟩ := hb
      simp [shapeEqKVs] at h
      simp [keysOf_cons, h.1.1, keysOf_eq_of_shapeEqKVs xs tb h.2]

theorem nodupList_of_shapeEq_of : ∀ (a b : List J), (∀ x, x ∈ a → ∀ y, shapeEq x y = true → x.nodup = true → y.nodup = true) →
    shapeEqList a b = true → nodupList a = true → nodupList b = true
  | [], b, _, h, _ => by cases b <;> first | rfl | cases h
  | x :: xs, b, ih, h, hn => by
    cases b <;> first | cases h | skip
    simp only [shapeEqList, nodupList, Bool.and_eq_true] at h hn ⊢
    exact ⟨ih x (.head _) _ h.1 hn.1, nodupList_of_shapeEq_of xs _ (fun x hx => ih x (.tail _ hx)) h.2 hn.2⟩

theorem nodupKVs_of_shapeEq_of : ∀ (a b : List (Str × J)), (∀ k x, (k, x) ∈ a → ∀ y, shapeEq x y = true → x.nodup = true → y.nodup = true) →
    shapeEqKVs a b = true → nodupKVs a = true → nodupKVs b = true
  | [], b, _, h, _ => by cases b <;> first | rfl | cases h
  | (k, x) :: xs, b, ih, h, hn => by
    rcases b with _ | ⟨⟨kb, vb⟩, tb⟩ <;> first | cases h | skip
    simp only [shapeEqKVs, nodupKVs, Bool.and_eq_true] at h hn ⊢
    exact ⟨ih k x (.head _) _ h.1.2 hn.1, nodupKVs_of_shapeEq_of xs _ (fun k x hx => ih k x (.tail _ hx)) h.2 hn.2⟩

theorem nodup_of_shapeEq : ∀ a b, shapeEq a b = true → a.nodup = true → b.nodup = true := by
  intro a
  induction a using J.induction with
  | scalar a ha =>
    intro b h _
    cases a <;> first | cases ha | skip
    all_goals cases b <;> first | rfl | cases h
  | arr xs ih =>
    intro b h hn
    cases b <;> first | cases h | skip
    exact nodupList_of_shapeEq_of xs _ ih h hn
  | obj kvs ih =>
    intro b h hn
    cases b <;> first | cases h | skip
    rename_i ys
    simp only [J.nodup, Bool.and_eq_true] at hn ⊢
    exact ⟨by rw [← keysOf_eq_of_shapeEqKVs kvs ys h]; exact hn.1, nodupKVs_of_shapeEq_of kvs _ ih h hn.2⟩

theorem nodupList_of_shapeEq : ∀ a b, shapeEqList a b = true → nodupList a = true → nodupList b = true :=
  fun a b => nodupList_of_shapeEq_of a b fun x _ => nodup_of_shapeEq x

theorem shapeEqKVs_of_mem (f : Str → J → J) :
    ∀ kvs, (∀ k v, (k, v) ∈ kvs → shapeEq v (f k v) = true) → shapeEqKVs kvs (kvs.map fun p => (p.1, f p.1 p.2)) = true
  | [], _ => rfl
  | (k, v) :: rest, h => by
    simp only [List.map_cons, shapeEqKVs, beq_self_eq_true, Bool.true_and, Bool.and_eq_true]
    exact ⟨h k v (.head _), shapeEqKVs_of_mem f rest fun k v hm => h k v (.tail _ hm)⟩

theorem shapeEqList_of_mem (f : J → J) : ∀ xs, (∀ x, x ∈ xs → shapeEq x (f x) = true) → shapeEqList xs (xs.map f) = true
  | [], _ => rfl
  | x :: xs, h => by
    simp only [List.map_cons, shapeEqList, Bool.and_eq_true]
    exact ⟨h x (.head _), shapeEqList_of_mem f xs fun x hm => h x (.tail _ hm)⟩

namespace Ctx

structure ShapeOK (c : Ctx) : Prop where
  keys : ∀ s v f, c.node s v = .obj f → ∀ k x, (f k x).1 = k
  leaf : ∀ s v out, c.node s v = .leaf out → shapeEq v out = true

theorem shapeEqKVs_run (c : Ctx) (f : Str → J → Str × St) (hk : ∀ k x, (f k x).1 = k) (kvs : List (Str × J))
    (h : ∀ k v, (k, v) ∈ kvs → shapeEq v (c.run (f k v).2 v) = true) : shapeEqKVs kvs (c.runKVs f kvs) = true := by
  simp only [runKVs_eq_map, hk]
  exact shapeEqKVs_of_mem (fun k v => c.run (f k v).2 v) kvs h

theorem run_shape (c : Ctx) (h : ShapeOK c) (s : St) (v : J) (hn : v.nodup = true) : shapeEq v (c.run s v) = true := by
  refine run_induction c (M := fun _ v o => v.nodup = true → shapeEq v o = true)
    (fun _ v _ _ => shapeEq_refl v) (fun s v o _ hn _ => h.leaf s v o hn) ?_ ?_ s v hn
  · intro s kvs f hf ih hn
    simp only [J.nodup, Bool.and_eq_true] at hn
    rw [fromPairs_runKVs c f (h.keys s _ f hf) kvs hn.1]
    exact shapeEqKVs_run c f (h.keys s _ f hf) kvs fun k v hm => ih k v hm (nodupKVs_mem hn.2 hm)
  · intro s xs s' _ ih hn
    rw [shapeEq, runList_eq_map]
    exact shapeEqList_of_mem _ xs fun x hm => ih x hm (nodupList_mem hn hm)

theorem runKVs_shape (c : Ctx) (h : ShapeOK c) (f : Str → J → Str × St) (hk : ∀ k x, (f k x).1 = k) :
    ∀ kvs, nodupKVs kvs = true →
      shapeEqKVs kvs (c.runKVs f kvs) = true ∧ keysOf (c.runKVs f kvs) = keysOf kvs := fun kvs hn =>
  ⟨shapeEqKVs_run c f hk kvs fun _ v hm => run_shape c h _ v (nodupKVs_mem hn hm), keysOf_runKVs c f hk kvs⟩

theorem runList_shape (c : Ctx) (h : ShapeOK c) : ∀ (s : St) (xs : List J), nodupList xs = true →
    shapeEqList xs (c.runList s xs) = true := fun s xs hn =>
  runList_eq_map c s xs ▸ shapeEqList_of_mem _ xs fun x hm => run_shape c h s x (nodupList_mem hn hm)

end Ctx
end Anonymongo
