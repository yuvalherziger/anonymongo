/-
  Lemmas/Base64.lean — `DecodeString (EncodeToString b) = b` for the model of encoding/base64 (`dec_enc`), and: an encoding
  consists of characters `chr n` and `=` (`encNat_all`), so it holds no CR / LF, is ASCII and is left alone by the JSON
  serialiser (`Plain`).
-/
import Anonymongo.Model.Base64
namespace Anonymongo.Base64

/- Where a `"…".toList` stands in a statement that is evaluated (here: the three finite facts about `alphabet`), the literal is
   first rewritten with `String.toList_ofList`: `toList` of a literal is evaluated by decoding its UTF-8 form; for the rewrite
   the kernel only has to check that the literal is `String.ofList` of its characters. -/

theorem val_chr : ∀ n < 64, val (chr n) = some n := by
  unfold chr alphabet; rw [String.toList_ofList]; decide +kernel

/-- every sextet, in range or not, is written as a character of the alphabet -/
theorem chr_mem (n : Nat) : chr n ∈ alphabet := by
  unfold chr
  rw [List.getD_eq_getElem?_getD]
  cases h : alphabet[n]? with
  | none => unfold alphabet; rw [String.toList_ofList]; decide
  | some c => exact List.mem_of_getElem? h

/-- what every character of an encoding is: no CR / LF, ASCII, nothing the JSON serialiser escapes -/
def Plain (c : Char) : Prop :=
  (c ≠ '\r' ∧ c ≠ '\n') ∧ Char.ofNat c.toNat.toUInt8.toNat = c ∧ escChar c = [c.toNat.toUInt8]

theorem alphabet_chars : ∀ c ∈ alphabet, c ≠ '=' ∧ Plain c := by
  unfold Plain alphabet; rw [String.toList_ofList]; decide +kernel

theorem chr_ne_pad (n : Nat) : chr n ≠ '=' := (alphabet_chars _ (chr_mem n)).1

/-- three bytes as four sextets, and back -/
theorem sextets {a b c : Nat} (ha : a < 256) (hb : b < 256) (hc : c < 256) :
    (a / 4 < 64 ∧ a % 4 * 16 + b / 16 < 64 ∧ b % 16 * 4 + c / 64 < 64 ∧ c % 64 < 64) ∧
    a / 4 * 4 + (a % 4 * 16 + b / 16) / 16 = a ∧
    (a % 4 * 16 + b / 16) % 16 * 16 + (b % 16 * 4 + c / 64) / 4 = b ∧
    (b % 16 * 4 + c / 64) % 4 * 64 + c % 64 = c := by omega

theorem decQuads_encNat (l : List Nat) (h : ∀ x ∈ l, x < 256) : decQuads (encNat l) = some l := by
  fun_induction encNat l with
  | case1 => rfl
  | case2 a =>
    -- a short last group is written as if it were filled up with zero bytes: `sextets` at `b = c = 0`
    obtain ⟨⟨h1, h2, -, -⟩, e1, -, -⟩ := sextets (h a (by simp)) (Nat.zero_lt_succ 255) (Nat.zero_lt_succ 255)
    simp only [Nat.zero_div, Nat.add_zero] at h2 e1
    simp only [decQuads, val_chr _ h1, val_chr _ h2, List.isEmpty_nil, and_self, if_true, e1]
  | case3 a b =>
    obtain ⟨⟨h1, h2, h3, -⟩, e1, e2, -⟩ := sextets (h a (by simp)) (h b (by simp)) (Nat.zero_lt_succ 255)
    simp only [Nat.zero_div, Nat.add_zero] at h3 e2
    simp only [decQuads, val_chr _ h1, val_chr _ h2, val_chr _ h3, List.isEmpty_nil, and_self, if_true, chr_ne_pad, if_false, e1, e2]
  | case4 a b c rest ih =>
    obtain ⟨⟨h1, h2, h3, h4⟩, e1, e2, e3⟩ := sextets (h a (by simp)) (h b (by simp)) (h c (by simp))
    simp only [decQuads, val_chr _ h1, val_chr _ h2, val_chr _ h3, val_chr _ h4, chr_ne_pad, false_and, if_false,
      ih fun x hx => h x (by simp [hx]), e1, e2, e3]

theorem encNat_all {P : Char → Prop} (hc : ∀ n, P (chr n)) (hp : P '=') (l : List Nat) : ∀ c ∈ encNat l, P c := by
  have cons {a : Char} {s : Str} (h1 : P a) (h2 : ∀ c ∈ s, P c) : ∀ c ∈ a :: s, P c := List.forall_mem_cons.2 ⟨h1, h2⟩
  fun_induction encNat l with
  | case1 => exact List.forall_mem_nil P
  | case2 a => exact cons (hc _) (cons (hc _) (cons hp (cons hp (List.forall_mem_nil P))))
  | case3 a b => exact cons (hc _) (cons (hc _) (cons (hc _) (cons hp (List.forall_mem_nil P))))
  | case4 a b c rest ih => exact cons (hc _) (cons (hc _) (cons (hc _) (cons (hc _) ih)))

theorem plain_of_mem_encNat (l : List Nat) : ∀ c ∈ encNat l, Plain c :=
  encNat_all (fun n => (alphabet_chars _ (chr_mem n)).2) (by unfold Plain; decide) l

theorem encNat_keep (l : List Nat) : ∀ c ∈ encNat l, c ≠ '\r' ∧ c ≠ '\n' := fun c h => (plain_of_mem_encNat l c h).1

/-- **round trip**: the codec law of C09 and C11 -/
theorem dec_enc (b : Bytes) : dec (enc b) = some b := by
  unfold dec enc
  have hk := encNat_keep (b.map UInt8.toNat)
  have hf : (encNat (b.map UInt8.toNat)).filter (fun c => decide (c ≠ '\r' ∧ c ≠ '\n')) = encNat (b.map UInt8.toNat) := by
    apply List.filter_eq_self.mpr
    intro c hc; simpa using hk c hc
  rw [hf, decQuads_encNat _ (List.forall_mem_map.2 fun y _ => y.toNat_lt)]
  simp [List.map_map, Function.comp_def]

theorem encNat_length (l : List Nat) : (encNat l).length = 4 * ((l.length + 2) / 3) := by
  fun_induction encNat l with
  | case1 => rfl
  | case2 a => simp
  | case3 a b => simp
  | case4 a b c rest ih => simp only [List.length_cons, ih]; omega

theorem flatMap_escChar_encNat (l : List Nat) : (encNat l).flatMap escChar = (encNat l).map fun c => c.toNat.toUInt8 := by
  rw [List.map_eq_flatMap, List.flatMap_def, List.flatMap_def]
  exact congrArg _ (List.map_congr_left fun c h => (plain_of_mem_encNat l c h).2.2)

/-- the encoding is ASCII: writing it to a file as bytes and reading it back as text changes nothing -/
theorem ascii_roundtrip (b : Bytes) (c : Char) (hc : c ∈ enc b) : Char.ofNat c.toNat.toUInt8.toNat = c :=
  (plain_of_mem_encNat _ c hc).2.1

end Anonymongo.Base64
