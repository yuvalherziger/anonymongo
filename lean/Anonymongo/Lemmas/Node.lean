/-
  Lemmas/Node.lean — `node` (Model/Auto) inverted, once per kind of value: `node_obj`, `node_arr`, `node_scalar_cases`
  list every answer, with the child map of an object (`ChildOf`: tied to the state it is answered in; `ChildMap`: the
  state forgotten), the element state of an array (`ElemSt`) and the reason for a copy (`keepMeta (stMeta s)`, or not
  a `walker` state).  A fact about "every transition" is a case split on one of these, not on the states.
  `opZone_ind`: the same for the zone a key of an operation document opens.
-/
import Anonymongo.Model.Auto
import Anonymongo.Lemmas.Assoc
namespace Anonymongo

theorem Meta.isTy_eq {m : Meta} {t : OpT} (h : m.isTy t = true) : m = .ty t := by
  cases m <;> simp_all [Meta.isTy]

theorem isTy?_eq (m : Option Meta) (t : OpT) (h : isTy? m t = true) : m = some (.ty t) := by
  cases m with
  | none => cases h
  | some x =>
    have e : isTy? (some x) t = x.isTy t := by cases x <;> rfl
    exact congrArg some (Meta.isTy_eq (e ▸ h))

namespace Ctx

def stMeta : St → Option Meta
  | .PVal _ _ _ op => op
  | .SubVal _ _ _ _ sm => sm
  | .QVal _ co _ _ => co
  | _ => none

/-- the four value-keeping classifications of Spec/Whitelist.lean: the operator types a walker can copy a value for -/
def keepTy : OpT → Bool
  | .Exempt => true
  | .FieldName => true
  | .Namespace => true
  | .Pipeline => true
  | _ => false

def keepMeta : Option Meta → Bool
  | some (.ty t) => keepTy t
  | _ => false

theorem keepMeta_inv (o : Option Meta) (h : keepMeta o = true) : ∃ t, o = some (.ty t) ∧ keepTy t = true := by
  rcases o with _ | (t | _ | _)
  · cases h
  · exact ⟨t, rfl, h⟩
  · cases h
  · cases h

theorem keepMeta_of_exempt (co : Option Meta) (h : isTy? co .Exempt = true) : keepMeta co = true := by
  rw [isTy?_eq co _ h]; rfl

/-- a state of one of the two walkers (as opposed to zones / namespace member / outside) -/
def walker : St → Bool
  | .P .. | .PVal .. | .Facet | .FacetStage | .SubVal .. | .AElem .. | .QVal .. => true
  | _ => false

/-- the child maps, each with what it takes from the state `s` it is answered in: the query walker continues under the
    parent meta of a `QVal` state (`q`) or starts without one (`qTop`); a sub-table is the meta of the `PVal` state (`sub`) -/
inductive ChildOf (c : Ctx) : St → (Str → J → Str × St) → Prop
  | p (s S kp) : ChildOf c s (c.pObj S kp)
  | qTop (s S kp) : ChildOf c s (c.qObj S none kp)
  | q (S co k nkp) : ChildOf c (.QVal S co k nkp) (c.qObj S (qParent co) nkp)
  | sub (S kp k) (m : MTable) :
      ChildOf c (.PVal S kp k (some (.map m))) fun sk _ => (c.subKey (lookup sk m) sk, .SubVal S k (kp ++ [k]) sk (lookup sk m))
  | facet (s) : ChildOf c s fun k' _ => (k', .Facet)
  | nsDoc (s) : c.cfg.ns = true → ChildOf c s fun k' _ => (k', .NsMember)
  | zone (s) (hi : Bool) : ChildOf c s fun k _ => (k, opZone hi k)

/-- one line per branch of `node`: each equation is `rfl` once state and meta are constructors
    (`simp only [node]` is slow: ~50 overlapping equations) -/
theorem node_obj (c : Ctx) (s : St) (kvs : List (Str × J)) :
    (c.node s (.obj kvs) = .keep ∧ (keepMeta (stMeta s) = true ∨ walker s = false)) ∨
      ∃ f, c.node s (.obj kvs) = .obj f ∧ ChildOf c s f := by
  cases s with
  | P S kp => exact .inr ⟨_, rfl, .p _ S kp⟩
  | PVal S kp k op =>
    match op with
    | some (.ty t) =>
      cases t with
      | Namespace | Exempt => exact .inl ⟨rfl, .inl rfl⟩
      | Pipeline => exact .inr ⟨_, rfl, .facet _⟩
      | _ => exact .inr ⟨_, rfl, .p _ S (kp ++ [k])⟩
    | some (.map m) => exact .inr ⟨_, rfl, .sub S kp k m⟩
    | none | some .nil => exact .inr ⟨_, rfl, .p _ S (kp ++ [k])⟩
  | Facet | FacetStage => exact .inr ⟨_, rfl, .p _ _ []⟩
  | SubVal S k nkp sk sm =>
    match sm with
    | some (.ty t) =>
      cases t with
      | Namespace =>
        by_cases hns : c.cfg.ns = true
        · exact .inr ⟨_, if_pos hns, .nsDoc _ hns⟩
        · exact .inl ⟨if_neg hns, .inl rfl⟩
      | Exempt => exact .inl ⟨rfl, .inl rfl⟩
      | _ => exact .inr ⟨_, rfl, .p _ S (nkp ++ [sk])⟩
    | none | some (.map _) | some .nil => exact .inr ⟨_, rfl, .p _ S (nkp ++ [sk])⟩
  | AElem S pk sel kp => exact .inr ⟨_, rfl, .qTop _ S kp⟩
  | QVal S co k nkp => exact .inr ⟨_, rfl, .q S co k nkp⟩
  | ZQ | ZU => exact .inr ⟨_, rfl, .qTop _ false []⟩
  | ZOp => exact .inr ⟨_, rfl, .zone _ _⟩
  | NsMember | ZA | ZP | ZOps | Keep => exact .inl ⟨rfl, .inr rfl⟩

inductive ElemSt : St → Prop
  | a (S pk sel kp) : ElemSt (.AElem S pk sel kp)
  | p (S kp) : ElemSt (.P S kp)
  | stage : ElemSt .FacetStage
  | op : ElemSt .ZOp

theorem node_arr (c : Ctx) (s : St) (xs : List J) :
    (c.node s (.arr xs) = .keep ∧ (keepMeta (stMeta s) = true ∨ walker s = false)) ∨
      ∃ s', c.node s (.arr xs) = .arr s' ∧ ElemSt s' ∧
        ((∀ ys, c.node s (.arr ys) = .arr s') ∨ ∃ S pk kp, s' = .AElem S pk (c.selArr xs) kp) := by
  cases s with
  | P S kp => exact .inr ⟨_, rfl, .a .., .inr ⟨_, _, _, rfl⟩⟩
  | PVal S kp k op =>
    match op with
    | some (.ty t) =>
      cases t with
      | FieldName =>
        by_cases hb : (!c.rfn && allStrings xs) = true
        · exact .inl ⟨if_pos hb, .inl rfl⟩
        · exact .inr ⟨_, if_neg hb, .a .., .inr ⟨_, _, _, rfl⟩⟩
      | Namespace | Exempt => exact .inl ⟨rfl, .inl rfl⟩
      | OperatorArray => exact .inr ⟨_, rfl, .p .., .inl fun _ => rfl⟩
      | _ => exact .inr ⟨_, rfl, .a .., .inr ⟨_, _, _, rfl⟩⟩
    | none | some (.map _) | some .nil => exact .inr ⟨_, rfl, .a .., .inr ⟨_, _, _, rfl⟩⟩
  | Facet | ZP => exact .inr ⟨_, rfl, .stage, .inl fun _ => rfl⟩
  | SubVal S k nkp sk sm =>
    match sm with
    | some (.ty t) =>
      cases t with
      | FieldName =>
        by_cases hb : (!c.rfn && allStrings xs) = true
        · exact .inl ⟨if_pos hb, .inl rfl⟩
        · exact .inr ⟨_, if_neg hb, .a .., .inr ⟨_, _, _, rfl⟩⟩
      | Namespace | Exempt => exact .inl ⟨rfl, .inl rfl⟩
      | OperatorArray => exact .inr ⟨_, rfl, .p .., .inl fun _ => rfl⟩
      | Pipeline => exact .inr ⟨_, rfl, .stage, .inl fun _ => rfl⟩
      | _ => exact .inr ⟨_, rfl, .a .., .inr ⟨_, _, _, rfl⟩⟩
    | none | some (.map _) | some .nil => exact .inr ⟨_, rfl, .a .., .inr ⟨_, _, _, rfl⟩⟩
  | FacetStage | QVal => exact .inr ⟨_, rfl, .a .., .inr ⟨_, _, _, rfl⟩⟩
  | AElem | ZU | ZA => exact .inr ⟨_, rfl, .a .., .inl fun _ => rfl⟩
  | ZOps => exact .inr ⟨_, rfl, .op, .inl fun _ => rfl⟩
  | NsMember | ZQ | ZOp | Keep => exact .inl ⟨rfl, .inr rfl⟩

theorem node_scalar_cases (c : Ctx) (s : St) (v : J) (hv : v.isScalar = true) :
    (∃ o, c.node s v = .leaf o) ∨ c.node s v = .keep := by
  cases v with
  | obj | arr => cases hv
  | _ =>
    cases s with
    | P | PVal | Facet | FacetStage | SubVal | AElem | QVal => exact .inl ⟨_, rfl⟩
    | NsMember => first | exact .inl ⟨_, rfl⟩ | exact .inr rfl    -- only a string is touched
    | _ => exact .inr rfl

theorem node_obj_cases (c : Ctx) (s : St) (kvs : List (Str × J)) :
    (∃ f, c.node s (.obj kvs) = .obj f) ∨ c.node s (.obj kvs) = .keep :=
  (node_obj c s kvs).elim (fun h => .inr h.1) fun ⟨f, h, _⟩ => .inl ⟨f, h⟩

theorem node_arr_cases (c : Ctx) (s : St) (xs : List J) :
    (∃ s', c.node s (.arr xs) = .arr s') ∨ c.node s (.arr xs) = .keep :=
  (node_arr c s xs).elim (fun h => .inr h.1) fun ⟨s', h, _⟩ => .inl ⟨s', h⟩

theorem isScalar_of_node_leaf (c : Ctx) {s : St} {v o : J} (h : c.node s v = .leaf o) : v.isScalar = true := by
  cases v with
  | obj kvs => rcases node_obj_cases c s kvs with ⟨_, e⟩ | e <;> rw [e] at h <;> cases h
  | arr xs => rcases node_arr_cases c s xs with ⟨_, e⟩ | e <;> rw [e] at h <;> cases h
  | _ => rfl

theorem eq_obj_of_node_obj (c : Ctx) {s : St} {v : J} {f : Str → J → Str × St} (h : c.node s v = .obj f) :
    ∃ kvs, v = .obj kvs := by
  by_cases hv : v.isScalar = true
  · rcases node_scalar_cases c s v hv with ⟨_, e⟩ | e <;> rw [e] at h <;> cases h
  cases v with
  | obj kvs => exact ⟨kvs, rfl⟩
  | arr xs => rcases node_arr_cases c s xs with ⟨_, e⟩ | e <;> rw [e] at h <;> cases h
  | _ => exact absurd rfl hv

theorem node_obj_child (c : Ctx) {s : St} {kvs : List (Str × J)} {f : Str → J → Str × St}
    (h : c.node s (.obj kvs) = .obj f) : ChildOf c s f := by
  rcases node_obj c s kvs with ⟨e, _⟩ | ⟨f', e, hf⟩ <;> rw [e] at h <;> cases h
  exact hf

inductive ChildMap (c : Ctx) : (Str → J → Str × St) → Prop
  | p (S kp) : ChildMap c (c.pObj S kp)
  | q (S pc kp) : ChildMap c (c.qObj S pc kp)
  | sub (S k nkp) (m : MTable) : ChildMap c fun sk _ => (c.subKey (lookup sk m) sk, .SubVal S k nkp sk (lookup sk m))
  | facet : ChildMap c fun k' _ => (k', .Facet)
  | nsDoc : c.cfg.ns = true → ChildMap c fun k' _ => (k', .NsMember)
  | zone (hi : Bool) : ChildMap c fun k _ => (k, opZone hi k)

theorem node_obj_inv (c : Ctx) {s : St} {kvs : List (Str × J)} {f : Str → J → Str × St}
    (h : c.node s (.obj kvs) = .obj f) : ChildMap c f := by
  cases node_obj_child c h with
  | p _ S kp => exact .p S kp
  | qTop _ S kp => exact .q S none kp
  | q S co _ nkp => exact .q S (qParent co) nkp
  | sub S kp k m => exact .sub S k (kp ++ [k]) m
  | facet => exact .facet
  | nsDoc _ hns => exact .nsDoc hns
  | zone _ hi => exact .zone hi

theorem node_arr_inv (c : Ctx) {s : St} {xs : List J} {s' : St} (h : c.node s (.arr xs) = .arr s') : ElemSt s' := by
  rcases node_arr c s xs with ⟨e, _⟩ | ⟨s'', e, hs, _⟩ <;> rw [e] at h <;> cases h
  exact hs

theorem node_keep (c : Ctx) {s : St} {v : J} (hv : v.isScalar = false) (h : c.node s v = .keep) :
    keepMeta (stMeta s) = true ∨ walker s = false := by
  cases v with
  | obj kvs =>
    rcases node_obj c s kvs with ⟨_, hr⟩ | ⟨_, e, _⟩
    · exact hr
    · rw [e] at h; cases h
  | arr xs =>
    rcases node_arr c s xs with ⟨_, hr⟩ | ⟨_, e, _⟩
    · exact hr
    · rw [e] at h; cases h
  | _ => cases hv

/-- the tests are taken one at a time with `by_cases`, which leaves `contains k` against the concrete key lists
    unevaluated -/
theorem opZone_ind {P : St → Prop} (q : P .ZQ) (u : P .ZU) (a : P .ZA) (p : P .ZP) (keep : P .Keep)
    (hi : Bool) (k : Str) : P (opZone hi k) := by
  unfold opZone
  by_cases h1 : qKeysObj.contains k = true; · rw [if_pos h1]; exact q
  rw [if_neg h1]
  by_cases h2 : uKeysObjOrArr.contains k = true; · rw [if_pos h2]; exact u
  rw [if_neg h2]
  by_cases h3 : aKeysArr.contains k = true; · rw [if_pos h3]; exact a
  rw [if_neg h3]
  by_cases h4 : k = sDocuments; · rw [if_pos h4]; cases hi <;> assumption
  rw [if_neg h4]
  by_cases h5 : k = sDocument; · rw [if_pos h5]; cases hi <;> assumption
  rw [if_neg h5]
  by_cases h6 : k = sPipeline; · rw [if_pos h6]; exact p
  rw [if_neg h6]; exact keep

theorem pKey_noRfn (c : Ctx) (h : c.rfn = false) (op : Option Meta) (k : Str) : c.pKey op k = k := by
  unfold pKey; split <;> simp [h]

theorem subKey_noRfn (c : Ctx) (h : c.rfn = false) (sm : Option Meta) (k : Str) : c.subKey sm k = k := by
  unfold subKey; split <;> simp [h]

theorem qKey_noRfn (c : Ctx) (h : c.rfn = false) (co : Option Meta) (k : Str) : c.qKey co k = k := by
  simp [qKey, h]

theorem keys_of_noRfn (c : Ctx) (h : c.rfn = false) (s : St) (v : J) (f : Str → J → Str × St)
    (hn : c.node s v = .obj f) (k : Str) (x : J) : (f k x).1 = k := by
  obtain ⟨kvs, rfl⟩ := eq_obj_of_node_obj c hn
  cases node_obj_inv c hn <;> simp [pObj, qObj, pKey_noRfn c h, subKey_noRfn c h, qKey_noRfn c h]

theorem isInSearchStage_keys (T : Tables) (a b : List (Str × J)) (h : keysOf a = keysOf b) :
    isInSearchStage T (.obj a) = isInSearchStage T (.obj b) := by
  have : ∀ l : List (Str × J), isInSearchStage T (.obj l) = (keysOf l).any fun k => T.topSearch.contains k := fun l => by
    simp [isInSearchStage, keysOf, List.any_map, Function.comp_def]
  rw [this, this, h]

theorem node_obj_keys (c : Ctx) (s : St) (a b : List (Str × J)) (h : keysOf a = keysOf b) :
    c.node s (.obj a) = c.node s (.obj b) := by
  have hs := isInSearchStage_keys c.T a b h
  have hi := isSome_lookup_of_keysOf sInsert a b h
  cases s <;> unfold node <;> simp only [hs, hi]

theorem node_arr_congr (c : Ctx) (s : St) (xs ys : List J) (hall : allStrings xs = allStrings ys)
    (hsel : c.selArr xs = c.selArr ys) : c.node s (.arr xs) = c.node s (.arr ys) := by
  cases s <;> unfold node <;> simp only [hall, hsel]

/-- an action that descends into an array does so whatever the array is, or hands `selArr` of the array to the
    state of the elements, which is then an `AElem` -/
theorem node_arr_elem (c : Ctx) {s : St} {xs : List J} {s' : St} (h : c.node s (.arr xs) = .arr s') :
    (∀ ys, c.node s (.arr ys) = .arr s') ∨ ∃ S pk kp, s' = .AElem S pk (c.selArr xs) kp := by
  rcases node_arr c s xs with ⟨e, _⟩ | ⟨s'', e, _, hd⟩ <;> rw [e] at h <;> cases h
  exact hd

theorem augment_none (c : Ctx) (hre : c.cfg.re = none) (S : Bool) (op : Option Meta) (v : J) :
    c.augment S op v = op := by
  unfold augment
  split
  · simp [augmentOp, hre]
  · rfl

theorem selArr_none (c : Ctx) (hre : c.cfg.re = none) (xs : List J) : c.selArr xs = false := by
  simp [selArr, hre]

theorem node_obj_indep (c : Ctx) (hre : c.cfg.re = none) (s : St) (a : List (Str × J)) (f : Str → J → Str × St)
    (h : c.node s (.obj a) = .obj f) : ∀ k x y, f k x = f k y := by
  intro k x y
  cases node_obj_inv c h <;> simp [pObj, qObj, augment_none c hre]

theorem zoneState_ind {P : St → Prop} (zop : P .ZOp) (zops : P .ZOps) (op : ∀ hi k, P (opZone hi k))
    (hi hb : Bool) (k : Str) : P (zoneState hi hb k) := by
  unfold zoneState
  split
  · exact zop
  · split
    · exact zops
    · exact op hi k

end Ctx
end Anonymongo
