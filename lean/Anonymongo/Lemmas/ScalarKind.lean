/-
  Lemmas/ScalarKind.lean — the JSON type tag `kindOf`; `redactScalarValue` returns a scalar of the
  same JSON type.
-/
import Anonymongo.Spec.Shape
import Anonymongo.Model.Walk
import Anonymongo.Lemmas.ScalarClass
namespace Anonymongo

def kindOf : J → Nat
  | .null => 0 | .bool _ => 1 | .num _ => 2 | .str _ => 3 | .arr _ => 4 | .obj _ => 5

@[simp] theorem kindOf_null : kindOf .null = 0 := rfl
@[simp] theorem kindOf_bool (b) : kindOf (.bool b) = 1 := rfl
@[simp] theorem kindOf_num (l) : kindOf (.num l) = 2 := rfl
@[simp] theorem kindOf_str (s) : kindOf (.str s) = 3 := rfl
@[simp] theorem kindOf_arr (s) : kindOf (.arr s) = 4 := rfl
@[simp] theorem kindOf_obj (s) : kindOf (.obj s) = 5 := rfl

theorem isScalar_iff_kind (v : J) : v.isScalar = true ↔ kindOf v < 4 := by
  cases v <;> simp [J.isScalar, kindOf]

theorem isScalar_of_kind {a b : J} (h : kindOf a = kindOf b) (ha : a.isScalar = true) : b.isScalar = true :=
  (isScalar_iff_kind b).2 (h ▸ (isScalar_iff_kind a).1 ha)

theorem eq_str_of_kind {a : J} {x : Str} (h : kindOf a = kindOf (.str x)) : ∃ y, a = .str y := by
  cases a <;> first | exact ⟨_, rfl⟩ | cases h

theorem shapeEq_of_kind : ∀ (v out : J), v.isScalar = true → kindOf out = kindOf v → shapeEq v out = true
  | .null, out, _, h => by cases out <;> simp_all [shapeEq]
  | .bool _, out, _, h => by cases out <;> simp_all [shapeEq]
  | .num _, out, _, h => by cases out <;> simp_all [shapeEq]
  | .str _, out, _, h => by cases out <;> simp_all [shapeEq]
  | .arr _, _, h, _ => by simp [J.isScalar] at h
  | .obj _, _, h, _ => by simp [J.isScalar] at h

theorem redactScalar_kind (T : Tables) (cfg : Cfg) (kp : List Str) (S sel : Bool) (v : J) (hv : v.isScalar = true) :
    kindOf (redactScalar T cfg kp v S sel) = kindOf v := by
  have h := redactScalar_out T cfg kp S sel v hv
  generalize redactScalar T cfg kp v S sel = out at h
  cases h <;> rfl

namespace Ctx

theorem isScalar_of_not (v : J) (h1 : ∀ kvs, v ≠ .obj kvs) (h2 : ∀ xs, v ≠ .arr xs) : v.isScalar = true := by
  cases v <;> simp_all [J.isScalar]

end Ctx

/-- same class ⇒ same constructor, except `subType` / `null` / `container`, which are not secret -/
theorem ClassFits.kindOf_eq {cfg : Cfg} {kp : List Str} {a b : J} {cl : LeafClass} (fa : ClassFits kp a cl)
    (fb : ClassFits kp b cl) (hsec : secretClass cfg cl = true) : kindOf a = kindOf b := by
  cases fa with
  | subType | null | arr | obj => exact Bool.noConfusion hsec
  | _ => cases fb; rfl

end Anonymongo
