/-
  Lemmas/JEq.lean — `J.beq` is sound.  With it a closed equation between JSON values can be left to the kernel alone
  (`decide +kernel` on `J.beq … = true`), where `rfl` evaluates both sides in the elaborator first.
  `eq_some_of_beq` / `eq_some_of_beqKVs`: the same for an optional result compared with `some x` (the closed
  examples of Props/Src/Scalar and Props/Src/Walk).
-/
import Anonymongo.Model.Json
namespace Anonymongo

mutual
theorem J.eq_of_beq : ∀ (a b : J), J.beq a b = true → a = b
  | .null, b, h => by cases b <;> first | rfl | simp [J.beq] at h
  | .bool x, b, h => by cases b <;> simp [J.beq] at h; rw [h]
  | .num x, b, h => by cases b <;> simp [J.beq] at h; rw [h]
  | .str x, b, h => by cases b <;> simp [J.beq] at h; rw [h]
  | .arr xs, b, h => by
    cases b with
    | arr ys => rw [J.beq] at h; rw [J.eq_of_beqList xs ys h]
    | _ => simp [J.beq] at h
  | .obj xs, b, h => by
    cases b with
    | obj ys => rw [J.beq] at h; rw [J.eq_of_beqKVs xs ys h]
    | _ => simp [J.beq] at h
theorem J.eq_of_beqList : ∀ (a b : List J), J.beqList a b = true → a = b
  | [], b, h => by cases b <;> first | rfl | simp [J.beqList] at h
  | x :: xs, b, h => by
    cases b with
    | nil => simp [J.beqList] at h
    | cons y ys =>
      rw [J.beqList, Bool.and_eq_true] at h
      rw [J.eq_of_beq x y h.1, J.eq_of_beqList xs ys h.2]
theorem J.eq_of_beqKVs : ∀ (a b : List (Str × J)), J.beqKVs a b = true → a = b
  | [], b, h => by cases b <;> first | rfl | simp [J.beqKVs] at h
  | (k, x) :: xs, b, h => by
    cases b with
    | nil => simp [J.beqKVs] at h
    | cons p ys =>
      obtain ⟨k', y⟩ := p
      rw [J.beqKVs, Bool.and_eq_true, Bool.and_eq_true, beq_iff_eq] at h
      rw [h.1.1, J.eq_of_beq x y h.1.2, J.eq_of_beqKVs xs ys h.2]
end

theorem eq_some_of_beq (o : Option J) (x : J) (h : (match o with | some y => J.beq y x | none => false) = true) : o = some x := by
  cases o with
  | none => cases h
  | some y => exact congrArg some (J.eq_of_beq y x h)

theorem eq_some_of_beqKVs (o : Option (List (Str × J))) (x : List (Str × J))
    (h : (match o with | some y => J.beqKVs y x | none => false) = true) : o = some x := by
  cases o with
  | none => cases h
  | some y => exact congrArg some (J.eq_of_beqKVs y x h)

end Anonymongo
