/-
  Lemmas/RunInd.lean — the induction principle of the walker automaton.
  `run_induction`: to prove `M s v (c.run s v)` for every state and tree, give one case per action of `node`
  (copy / emit / descend into an object / descend into an array); in the two container cases `M` is available
  for every child.  Invariants of the states, hypotheses on the tree and "for every second tree" go into `M`.
  Every statement that lifts a fact about scalar leaves to whole trees is an instance (the nested recursion over `J`
  comes from `J.induction`, Lemmas/Basic).
-/
import Anonymongo.Lemmas.Node
import Anonymongo.Lemmas.Basic
namespace Anonymongo

namespace Ctx

theorem run_of_keep (c : Ctx) {s : St} {v : J} (h : c.node s v = .keep) : c.run s v = v := by
  cases v <;> simp only [run, h]

theorem run_of_leaf (c : Ctx) {s : St} {v o : J} (h : c.node s v = .leaf o) : c.run s v = o := by
  cases v <;> simp only [run, h]

theorem run_of_obj (c : Ctx) {s : St} {kvs : List (Str × J)} {f : Str → J → Str × St} (h : c.node s (.obj kvs) = .obj f) :
    c.run s (.obj kvs) = .obj (fromPairs (c.runKVs f kvs)) := by
  simp only [run, h]

theorem run_of_arr (c : Ctx) {s : St} {xs : List J} {s' : St} (h : c.node s (.arr xs) = .arr s') :
    c.run s (.arr xs) = .arr (c.runList s' xs) := by
  simp only [run, h]

theorem runKVs_eq_map (c : Ctx) (f : Str → J → Str × St) :
    ∀ kvs, c.runKVs f kvs = kvs.map fun p => ((f p.1 p.2).1, c.run (f p.1 p.2).2 p.2)
  | [] => rfl
  | (k, v) :: rest => by simp only [runKVs, List.map_cons, runKVs_eq_map c f rest]

theorem runList_eq_map (c : Ctx) (s : St) : ∀ xs, c.runList s xs = xs.map (c.run s)
  | [] => rfl
  | x :: xs => by simp only [runList, List.map_cons, runList_eq_map c s xs]

theorem mem_runList (c : Ctx) (s : St) {xs : List J} {y : J} (h : y ∈ c.runList s xs) : ∃ x, x ∈ xs ∧ y = c.run s x := by
  rw [runList_eq_map] at h
  obtain ⟨x, hx, e⟩ := List.mem_map.1 h
  exact ⟨x, hx, e.symm⟩

theorem mem_runKVs (c : Ctx) (f : Str → J → Str × St) {kvs : List (Str × J)} {p : Str × J} (h : p ∈ c.runKVs f kvs) :
    ∃ k v, (k, v) ∈ kvs ∧ p = ((f k v).1, c.run (f k v).2 v) := by
  rw [runKVs_eq_map] at h
  obtain ⟨⟨k, v⟩, hm, e⟩ := List.mem_map.1 h
  exact ⟨k, v, hm, e.symm⟩

theorem keysOf_runKVs (c : Ctx) (f : Str → J → Str × St) (hk : ∀ k x, (f k x).1 = k) :
    ∀ kvs, keysOf (c.runKVs f kvs) = keysOf kvs
  | [] => rfl
  | (k, v) :: rest => by simp only [runKVs, keysOf_cons, hk, keysOf_runKVs c f hk rest]

theorem fromPairs_runKVs (c : Ctx) (f : Str → J → Str × St) (hk : ∀ k x, (f k x).1 = k) (kvs : List (Str × J))
    (hn : nodupKeys (keysOf kvs) = true) : fromPairs (c.runKVs f kvs) = c.runKVs f kvs :=
  fromPairs_of_nodup _ (by rw [keysOf_runKVs c f hk]; exact hn)

theorem run_induction (c : Ctx) {M : St → J → J → Prop}
    (keep : ∀ s v, c.node s v = .keep → M s v v)
    (leaf : ∀ s v o, v.isScalar = true → c.node s v = .leaf o → M s v o)
    (obj : ∀ s kvs f, c.node s (.obj kvs) = .obj f →
      (∀ k v, (k, v) ∈ kvs → M (f k v).2 v (c.run (f k v).2 v)) → M s (.obj kvs) (.obj (fromPairs (c.runKVs f kvs))))
    (arr : ∀ s xs s', c.node s (.arr xs) = .arr s' →
      (∀ x, x ∈ xs → M s' x (c.run s' x)) → M s (.arr xs) (.arr (c.runList s' xs)))
    (s : St) (v : J) : M s v (c.run s v) := by
  induction v using J.induction generalizing s with
  | scalar v hv =>
    rcases node_scalar_cases c s v hv with ⟨o, h⟩ | h
    · rw [run_of_leaf c h]; exact leaf s v o hv h
    · rw [run_of_keep c h]; exact keep s v h
  | arr xs ih =>
    rcases node_arr_cases c s xs with ⟨s', h⟩ | h
    · rw [run_of_arr c h]; exact arr s xs s' h fun x hx => ih x hx s'
    · rw [run_of_keep c h]; exact keep s _ h
  | obj kvs ih =>
    rcases node_obj_cases c s kvs with ⟨f, h⟩ | h
    · rw [run_of_obj c h]; exact obj s kvs f h fun k v hm => ih k v hm (f k v).2
    · rw [run_of_keep c h]; exact keep s _ h

/-- the same with the two scalar cases as one: most liftings know their leaf fact as a statement about
    `c.run s v` for scalar `v` -/
theorem run_induction_scalar (c : Ctx) {M : St → J → J → Prop}
    (scalar : ∀ s v, v.isScalar = true → M s v (c.run s v))
    (keep : ∀ s v, v.isScalar = false → c.node s v = .keep → M s v v)
    (obj : ∀ s kvs f, c.node s (.obj kvs) = .obj f →
      (∀ k v, (k, v) ∈ kvs → M (f k v).2 v (c.run (f k v).2 v)) → M s (.obj kvs) (.obj (fromPairs (c.runKVs f kvs))))
    (arr : ∀ s xs s', c.node s (.arr xs) = .arr s' →
      (∀ x, x ∈ xs → M s' x (c.run s' x)) → M s (.arr xs) (.arr (c.runList s' xs)))
    (s : St) (v : J) : M s v (c.run s v) := by
  refine run_induction c (fun s v h => ?_) (fun s v o hv h => run_of_leaf c h ▸ scalar s v hv) obj arr s v
  cases hv : v.isScalar
  · exact keep s v hv h
  · have := scalar s v hv; rwa [run_of_keep c h] at this

end Ctx
end Anonymongo
