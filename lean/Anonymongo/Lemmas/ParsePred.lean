/-
  Lemmas/ParsePred.lean — where the parser (Lemmas/Parses.lean) and the inherited predicates
  (Lemmas/TreePred.lean) meet: a `TreePred` that holds of every scanned number literal holds of every
  tree the parser returns (`Parses.pres`, an induction over derivations; `parseObj_pres` for an
  accepted line).
-/
import Anonymongo.Lemmas.TreePred
import Anonymongo.Lemmas.Parses
namespace Anonymongo

/-- a property `P` of values and `Q` of member lists, read on what each of the three functions returns
    (`parseMembers` extends the accumulator it is given) -/
def Item.Sat (P : J → Prop) (Q : List (Str × J) → Prop) : Item → Prop
  | .val v => P v
  | .mems acc kvs => Q acc → Q kvs
  | .elems xs => ∀ v ∈ xs, P v

variable {Q : J → Prop} {KP : List Str → Prop}

/-- every number literal the scanner accepts in front of a value-terminating byte satisfies `Q` -/
abbrev ScannedNums (Q : J → Prop) : Prop :=
  ∀ bs lit r, parseNumber bs = some (lit, r) → endsValue r = true → Q (.num (lit.map fun x => Char.ofNat x.toNat))

theorem Parses.pres (tp : TreePred Q KP) (hnum : ScannedNums Q) {f : Nat} {x : Bytes} {i : Item} {r : Bytes}
    (h : Parses f x i r) : i.Sat Q (fun kvs => Q (.obj kvs)) := by
  have nil : Q (.obj []) := (tp.obj []).mpr ⟨tp.keysNil, fun _ hp => nomatch hp⟩
  induction h with
  | objNil => exact nil
  | obj _ _ _ ih => exact ih nil
  | arrNil => exact (tp.arr []).mpr fun _ h => nomatch h
  | arr _ _ _ ih => exact (tp.arr _).mpr ih
  | str => exact tp.str _
  | lit hm =>
    simp only [litTable, List.mem_cons, List.mem_nil_iff, or_false, Prod.mk.injEq] at hm
    rcases hm with ⟨_, _, rfl⟩ | ⟨_, _, rfl⟩ | ⟨_, _, rfl⟩
    · exact tp.bool _
    · exact tp.bool _
    · exact tp.null
  | num _ _ hp he => exact hnum _ _ _ hp he
  | memLast _ _ _ _ _ ihv => exact tp.setKV _ _ ihv _
  | memMore _ _ _ _ _ _ _ ihv ihm => exact fun ha => ihm (tp.setKV _ _ ihv _ ha)
  | elemLast _ _ ihv => exact List.forall_mem_singleton.mpr ihv
  | elemMore _ _ _ _ ihv ihe => exact List.forall_mem_cons.mpr ⟨ihv, ihe⟩

theorem parseObj_pres (tp : TreePred Q KP) (hnum : ScannedNums Q) (bs : Bytes) (e : List (Str × J)) (h : parseObj bs = some e) :
    Q (.obj e) :=
  let ⟨_, hp, _⟩ := parseObj_some h; hp.pres tp hnum

end Anonymongo
