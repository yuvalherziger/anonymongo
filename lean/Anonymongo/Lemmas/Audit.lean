/-
  Lemmas/Audit.lean — one-tree lifting.  `Aud c L K s v out`: `out` has the structure the walk from `s` gives `v`
  (same keys / same length where it descends); `L` holds at every scalar leaf; where a container is copied `out` is
  the input and `K` holds.  `aud_run`: with field-name redaction off and no duplicate sibling keys `c.run s v` passes,
  given `L` at the leaves and `K` at the copies in the states of a transition-closed invariant `I`.
  `RelAt` (Lemmas/Rel.lean) is `Aud` without `K`.
-/
import Anonymongo.Lemmas.RunInd
import Anonymongo.Lemmas.Shape
namespace Anonymongo
namespace Ctx

mutual
def Aud (c : Ctx) (L : St → J → J → Prop) (K : St → J → Prop) : St → J → J → Prop
  | s, .obj kvs, b =>
    match c.node s (.obj kvs) with
    | .obj f => ∃ kvs', b = .obj kvs' ∧ AudKVs c L K f kvs kvs'
    | _ => b = .obj kvs ∧ K s (.obj kvs)
  | s, .arr xs, b =>
    match c.node s (.arr xs) with
    | .arr s' => ∃ ys, b = .arr ys ∧ AudList c L K s' xs ys
    | _ => b = .arr xs ∧ K s (.arr xs)
  | s, .null, b => L s .null b
  | s, .bool x, b => L s (.bool x) b
  | s, .num x, b => L s (.num x) b
  | s, .str x, b => L s (.str x) b
def AudKVs (c : Ctx) (L : St → J → J → Prop) (K : St → J → Prop) (f : Str → J → Str × St) :
    List (Str × J) → List (Str × J) → Prop
  | [], kvs' => kvs' = []
  | (k, v) :: rest, kvs' =>
    ∃ v' rest', kvs' = (k, v') :: rest' ∧ Aud c L K (f k v).2 v v' ∧ AudKVs c L K f rest rest'
def AudList (c : Ctx) (L : St → J → J → Prop) (K : St → J → Prop) (s : St) : List J → List J → Prop
  | [], ys => ys = []
  | x :: xs, ys => ∃ y ys', ys = y :: ys' ∧ Aud c L K s x y ∧ AudList c L K s xs ys'
end

section
variable {c : Ctx} {L : St → J → J → Prop} {K : St → J → Prop}

theorem aud_scalar {s : St} {v o : J} (hv : v.isScalar = true) : c.Aud L K s v o = L s v o := by
  cases v <;> first | rfl | cases hv

theorem audKVs_of_mem {f : Str → J → Str × St} (hk : ∀ k x, (f k x).1 = k) :
    ∀ kvs, (∀ k v, (k, v) ∈ kvs → c.Aud L K (f k v).2 v (c.run (f k v).2 v)) → c.AudKVs L K f kvs (c.runKVs f kvs)
  | [], _ => rfl
  | (k, v) :: rest, h => by
    simp only [AudKVs, runKVs, hk]
    exact ⟨_, _, rfl, h k v (.head _), audKVs_of_mem hk rest fun k v hm => h k v (.tail _ hm)⟩

theorem audList_of_mem {s : St} : ∀ xs, (∀ x, x ∈ xs → c.Aud L K s x (c.run s x)) → c.AudList L K s xs (c.runList s xs)
  | [], _ => rfl
  | x :: xs, h => ⟨_, _, rfl, h x (.head _), audList_of_mem xs fun x hm => h x (.tail _ hm)⟩
end

section
variable (c : Ctx) (hrfn : c.rfn = false) (I : St → Prop)
  (hIobj : ∀ s kvs f, I s → c.node s (.obj kvs) = .obj f → ∀ k x, I (f k x).2)
  (hIarr : ∀ s xs s', I s → c.node s (.arr xs) = .arr s' → I s')
  (L : St → J → J → Prop) (hL : ∀ s a, I s → a.isScalar = true → L s a (c.run s a))
  (K : St → J → Prop)
  (hKobj : ∀ s kvs, I s → c.node s (.obj kvs) = .keep → K s (.obj kvs))
  (hKarr : ∀ s xs, I s → c.node s (.arr xs) = .keep → K s (.arr xs))
include hrfn hIobj hIarr hL hKobj hKarr

/-- the lifting behind C01 and C05 on whole trees (Props/C01b, Props/C05b) -/
theorem aud_run : ∀ (s : St) (v : J), I s → v.nodup = true → c.Aud L K s v (c.run s v) := by
  intro s v
  refine run_induction_scalar c (M := fun s v o => I s → v.nodup = true → c.Aud L K s v o) ?_ ?_ ?_ ?_ s v
  · intro s v hv hi _
    rw [aud_scalar hv]; exact hL s v hi hv
  · intro s v hv h hi _
    cases v with
    | obj kvs => simp only [Aud, h]; exact ⟨trivial, hKobj s kvs hi h⟩
    | arr xs => simp only [Aud, h]; exact ⟨trivial, hKarr s xs hi h⟩
    | _ => cases hv
  · intro s kvs f hf ih hi hn
    simp only [J.nodup, Bool.and_eq_true] at hn
    have hk := keys_of_noRfn c hrfn s _ f hf
    simp only [Aud, hf, fromPairs_runKVs c f hk kvs hn.1]
    exact ⟨_, rfl, audKVs_of_mem hk kvs fun k v hm => ih k v hm (hIobj s kvs f hi hf k v) (nodupKVs_mem hn.2 hm)⟩
  · intro s xs s' hs' ih hi hn
    simp only [Aud, hs']
    exact ⟨_, rfl, audList_of_mem xs fun x hm => ih x hm (hIarr s xs s' hi hs') (nodupList_mem hn hm)⟩

theorem audKVs_run (f : Str → J → Str × St) (hk : ∀ k x, (f k x).1 = k) (hf : ∀ k x, I (f k x).2) :
    ∀ kvs, nodupKVs kvs = true →
      c.AudKVs L K f kvs (c.runKVs f kvs) ∧ keysOf (c.runKVs f kvs) = keysOf kvs := fun kvs hn =>
  ⟨audKVs_of_mem hk kvs fun k v hm => aud_run c hrfn I hIobj hIarr L hL K hKobj hKarr _ v (hf k v) (nodupKVs_mem hn hm),
    keysOf_runKVs c f hk kvs⟩

theorem audList_run : ∀ (s : St), I s → ∀ (xs : List J), nodupList xs = true → c.AudList L K s xs (c.runList s xs) :=
  fun s hi xs hn => audList_of_mem xs fun x hm => aud_run c hrfn I hIobj hIarr L hL K hKobj hKarr s x hi (nodupList_mem hn hm)
end

end Ctx
end Anonymongo
