/-
  Lemmas/LineAlg.lean — below the line level every rewrite of `RedactMongoLog` is a key-wise value map `mapVals`: `redactCommand`,
  `redactNamespace`, `nsFields` by definition; the attribute rewrite `redactAttrWith` as `mapVals` of `attrFn` (`redactAttrWith_eq_mapVals`),
  which `attrFn_remote` / `_ns` / `_planSummary` / `_cmd` read off key by key.  (`Ctx.cmdVal_obj`, `Ctx.cmdVal_arr` at the end are not
  about key-wise maps: what `redactOperation`'s dispatch `cmdVal` does with a document / an array, by group of keys, for Props/C01.)
-/
import Anonymongo.Spec.Shape
import Anonymongo.Model.Auto
namespace Anonymongo

def mapVals (h : Str → J → J) (l : List (Str × J)) : List (Str × J) := l.map fun p => (p.1, h p.1 p.2)

theorem mapKey_eq_mapVals (k : Str) (f : J → J) : ∀ l, mapKey k f l = mapVals (fun k' v => if k' = k then f v else v) l
  | [] => rfl
  | (k', v) :: rest => by
    have ih := mapKey_eq_mapVals k f rest
    simp only [mapVals] at ih
    by_cases h : k' = k <;> simp [mapKey, mapVals, h, ih]

theorem mapVals_mapVals (g h : Str → J → J) (l : List (Str × J)) :
    mapVals g (mapVals h l) = mapVals (fun k v => g k (h k v)) l := by
  simp [mapVals, List.map_map, Function.comp_def]

theorem mapVals_congr_left {g h : Str → J → J} {l : List (Str × J)} (e : ∀ p ∈ l, g p.1 p.2 = h p.1 p.2) :
    mapVals g l = mapVals h l :=
  List.map_congr_left fun p hp => congrArg (Prod.mk p.1) (e p hp)

theorem mapVals_idem {h : Str → J → J} {l : List (Str × J)} (e : ∀ p ∈ l, h p.1 (h p.1 p.2) = h p.1 p.2) :
    mapVals h (mapVals h l) = mapVals h l :=
  (mapVals_mapVals h h l).trans (mapVals_congr_left e)

theorem mapVals_id (l : List (Str × J)) : mapVals (fun _ v => v) l = l := by simp [mapVals]

theorem lookup_mapVals (h : Str → J → J) (k : Str) (l : List (Str × J)) :
    lookup k (mapVals h l) = (lookup k l).map (h k) := lookup_map_snd h k l

theorem keysOf_mapVals (h : Str → J → J) (l : List (Str × J)) : keysOf (mapVals h l) = keysOf l := by
  simp [mapVals, keysOf, List.map_map, Function.comp_def]

theorem ite_mapKey (b : Bool) (k : Str) (f : J → J) (l : List (Str × J)) :
    (if b = true then mapKey k f l else l) = mapVals (fun k' v => if (b && decide (k' = k)) = true then f v else v) l := by
  cases b
  · simp [mapVals]
  · simp [mapKey_eq_mapVals]

theorem gated_mapVals_attr (f : J → J) (entry : List (Str × J)) :
    gated (mapVals (fun k' v => if k' = sAttr then f v else v) entry) = gated entry := by
  have h1 : sC ≠ sAttr := by decide
  have h2 : sMsg ≠ sAttr := by decide
  simp only [gated, lookup_mapVals]
  cases lookup sC entry <;> cases lookup sMsg entry <;> simp [h1, h2]

/-! the command-level rewrites are key-wise maps by definition -/
namespace Ctx

theorem redactCommand_eq_mapVals (c : Ctx) (cmd : List (Str × J)) :
    c.redactCommand cmd = mapVals (c.cmdEntry (lookup sInsert cmd).isSome (lookup sBulkWrite cmd).isSome) cmd := rfl

theorem redactCommandA_eq_mapVals (c : Ctx) (cmd : List (Str × J)) :
    c.redactCommandA cmd =
      mapVals (fun k v => c.run (zoneState (lookup sInsert cmd).isSome (lookup sBulkWrite cmd).isSome k) v) cmd := rfl

theorem redactNamespace_eq_mapVals (c : Ctx) (cmd : List (Str × J)) : c.redactNamespace cmd = mapVals c.nsVal cmd := rfl

theorem nsFields_eq_mapVals (c : Ctx) (m : List (Str × J)) : c.nsFields m = mapVals c.nsFieldVal m := rfl

/-- zone values are documents or arrays -/
theorem cmdEntry_str (c : Ctx) (hi hb : Bool) (k s : Str) : c.cmdEntry hi hb k (.str s) = .str s := by
  simp [cmdEntry, cmdVal, opDoc]

theorem nsDoc_eq_mapVals (c : Ctx) (kvs : List (Str × J)) :
    c.nsDoc kvs = mapVals (fun _ v => match v with | .str s => .str (c.H s) | x => x) kvs := by
  simp only [nsDoc, mapVals]
  apply List.map_congr_left; intro p _; obtain ⟨k', v⟩ := p; cases v <;> rfl

end Ctx

/-- the attribute rewrite of `RedactMongoLog`, per attribute key (see `redactAttrWith_eq_mapVals`) -/
def attrFn (cd : Ctx → J → J) (T : Tables) (cfg : Cfg) (eagerPaths : List Str) (plan : Str → Str → Str) (g : Bool)
    (attr : List (Str × J)) : Str → J → J := fun k v =>
  let eager := eagerPaths.any fun p => isPrefix p (strOrEmpty (lookup sNs attr))
  let c : Ctx := { T := T, cfg := cfg, rfn := eager }
  let v1 := if cfg.ips && k = sRemote then (match v with | .str _ => .str T.ipPH | x => x) else v
  let v2 :=
    if g then
      let v2a := if cmdKeys.contains k then cd c v1 else v1
      if eager && k = sPlanSummary then (match v2a with | .str s => .str (plan cfg.repl s) | x => x) else v2a
    else v1
  if cfg.ns && k = sNs then (match v2 with | .str s => .str (hashName cfg.repl s) | x => x) else v2

/-- `remote`, `ns`, `planSummary` and the three command attributes are pairwise different (from the literals), so in `attrFn` each is
    touched by its own step only -/
theorem attrKeys_ne : sRemote ∉ cmdKeys ∧ sNs ∉ cmdKeys ∧ sPlanSummary ∉ cmdKeys ∧
    sRemote ≠ sNs ∧ sRemote ≠ sPlanSummary ∧ sNs ≠ sPlanSummary :=
  ⟨toList_not_mem (by decide), toList_not_mem (by decide), toList_not_mem (by decide),
    toList_ne (by simp only [String.reduceNe]), toList_ne (by simp only [String.reduceNe]), toList_ne (by simp only [String.reduceNe])⟩

theorem sRemote_not_cmd : cmdKeys.contains sRemote = false := by simpa using attrKeys_ne.1

theorem redactAttrWith_eq_mapVals (cd : Ctx → J → J) (T : Tables) (cfg : Cfg) (eagerPaths : List Str)
    (plan : Str → Str → Str) (g : Bool) (attr : List (Str × J)) :
    redactAttrWith cd T cfg eagerPaths plan g attr = mapVals (attrFn cd T cfg eagerPaths plan g attr) attr := by
  -- every stage is a conditional key-wise map, and key-wise maps compose;
  -- the first stage does not touch `ns`, which the second stage reads
  have hns : ∀ f : J → J, lookup sNs (mapVals (fun k' v => if (cfg.ips && decide (k' = sRemote)) = true then f v else v) attr)
      = lookup sNs attr := by
    intro f; rw [lookup_mapVals]; cases lookup sNs attr <;> simp [attrKeys_ne.2.2.2.1.symm]
  unfold redactAttrWith attrFn
  simp only [ite_mapKey, hns]
  generalize (eagerPaths.any fun p => isPrefix p (strOrEmpty (lookup sNs attr))) = e
  show mapVals _ (if g = true then mapVals _ (mapVals (fun k v => if cmdKeys.contains k = true then cd ⟨T, cfg, e⟩ v else v)
    (mapVals _ attr)) else _) = _
  cases g <;> simp only [Bool.false_eq_true, if_false, if_true, mapVals_mapVals] <;> rfl

theorem lookup_redactAttrWith (cd : Ctx → J → J) (T : Tables) (cfg : Cfg) (eagerPaths : List Str)
    (plan : Str → Str → Str) (g : Bool) (attr : List (Str × J)) (k : Str) :
    lookup k (redactAttrWith cd T cfg eagerPaths plan g attr) =
      (lookup k attr).map (attrFn cd T cfg eagerPaths plan g attr k) := by
  rw [redactAttrWith_eq_mapVals, lookup_mapVals]

theorem keysOf_redactAttrWith (cd : Ctx → J → J) (T : Tables) (cfg : Cfg) (eagerPaths : List Str)
    (plan : Str → Str → Str) (g : Bool) (attr : List (Str × J)) :
    keysOf (redactAttrWith cd T cfg eagerPaths plan g attr) = keysOf attr := by
  rw [redactAttrWith_eq_mapVals, keysOf_mapVals]

section
variable (cd : Ctx → J → J) (T : Tables) (cfg : Cfg) (eager : List Str) (plan : Str → Str → Str) (g : Bool)
  (attr : List (Str × J))

theorem attrFn_remote : attrFn cd T cfg eager plan g attr sRemote =
    fun v => if cfg.ips then (match v with | .str _ => .str T.ipPH | x => x) else v := by
  have ⟨c, _, _, n1, n2, _⟩ := attrKeys_ne
  funext v; cases g <;> simp [attrFn, c, n1, n2] <;> rfl

theorem attrFn_ns : attrFn cd T cfg eager plan g attr sNs =
    fun v => if cfg.ns then (match v with | .str s => .str (hashName cfg.repl s) | x => x) else v := by
  have ⟨_, c, _, n1, _, n2⟩ := attrKeys_ne
  funext v; cases g <;> simp [attrFn, c, n1.symm, n2] <;> rfl

theorem attrFn_planSummary : attrFn cd T cfg eager plan g attr sPlanSummary =
    fun v => if g && eager.any fun p => isPrefix p (strOrEmpty (lookup sNs attr)) then
      (match v with | .str s => .str (plan cfg.repl s) | x => x) else v := by
  have ⟨_, _, c, _, n1, n2⟩ := attrKeys_ne
  funext v; cases g <;> simp [attrFn, c, n1.symm, n2.symm] <;> rfl

/-- a command attribute goes through `cd` on a gated line, with field-name redaction on iff a path matches the line's `ns` -/
theorem attrFn_cmd (k : Str) (hk : cmdKeys.contains k = true) : attrFn cd T cfg eager plan g attr k =
    fun v => if g then cd ⟨T, cfg, eager.any fun p => isPrefix p (strOrEmpty (lookup sNs attr))⟩ v else v := by
  have hk' : k ∈ cmdKeys := List.contains_iff_mem.1 hk
  have n1 : k ≠ sRemote := fun e => attrKeys_ne.1 (e ▸ hk')
  have n2 : k ≠ sNs := fun e => attrKeys_ne.2.1 (e ▸ hk')
  have n3 : k ≠ sPlanSummary := fun e => attrKeys_ne.2.2.1 (e ▸ hk')
  funext v; cases g <;> simp [attrFn, hk', n1, n2, n3]
end

theorem Ctx.cmdVal_obj (c : Ctx) (hi : Bool) (k : Str) (kvs : List (Str × J))
    (h : (qKeysObj.contains k || uKeysObjOrArr.contains k) = true) :
    c.cmdVal hi k (.obj kvs) = .obj (fromPairs (c.Q false none [] kvs)) := by
  unfold Ctx.cmdVal
  by_cases h1 : qKeysObj.contains k = true
  · rw [if_pos h1]
  · rw [if_neg h1, if_pos ((Bool.or_eq_true _ _).mp h |>.resolve_left h1)]

/-- `documents` counts only when the operation has an `insert` key (`hi`) -/
theorem Ctx.cmdVal_arr (c : Ctx) (hi : Bool) (k : Str) (xs : List J) (h1 : qKeysObj.contains k = false)
    (h : (uKeysObjOrArr.contains k || aKeysArr.contains k || (hi && k == sDocuments)) = true) :
    c.cmdVal hi k (.arr xs) = .arr (c.A false [] false [] xs) := by
  unfold Ctx.cmdVal
  rw [if_neg (ne_true_of_eq_false h1)]
  by_cases h2 : uKeysObjOrArr.contains k = true
  · rw [if_pos h2]
  rw [if_neg h2]
  by_cases h3 : aKeysArr.contains k = true
  · rw [if_pos h3]
  rw [Bool.or_eq_true, Bool.or_eq_true, Bool.and_eq_true, beq_iff_eq] at h
  obtain ⟨hhi, hk⟩ := h.resolve_left (not_or.mpr ⟨h2, h3⟩)
  rw [if_neg h3, if_pos hk, hhi]; rfl

end Anonymongo
