/-
  Lemmas/ParseExt.lean — the parser reads a value from the FRONT of its input: accepted on `x` leaving `r`, it is
  accepted on `x ++ q` leaving `r ++ q` with the same result, for every `q` and any larger fuel (a scalar: provided
  `r ≠ []`, so that its end-of-value test saw a delimiter, not the end of the input — `Item.Closed`).
  Strings: induction over the body with one fact about one `strChar` step (`strChar_ext`).  Values: `Parses.ext`, an
  induction over derivations in which every token survives appending `q`.
  Consequences (C06, C08): `parseObj_append`, `parseObj_cut_rejected`, `parseObj_prefix_same`.
-/
import Anonymongo.Lemmas.NumRound
import Anonymongo.Lemmas.Esc
import Anonymongo.Lemmas.Parses
namespace Anonymongo

/-- `getu4` succeeds on four bytes in front of its rest, and looks at nothing else -/
theorem getu4_some (x : Bytes) (n : Nat) (r : Bytes) (h : getu4 x = some (n, r)) :
    ∃ pre, x = pre ++ r ∧ ∀ t, getu4 (pre ++ t) = some (n, t) := by
  match x, h with
  | a :: b :: c :: d :: rest, h =>
    simp only [getu4] at h
    split at h
    · rename_i ha hb hc hd
      cases h
      exact ⟨[a, b, c, d], rfl, fun t => by simp only [List.cons_append, List.nil_append, getu4, ha, hb, hc, hd]⟩
    · cases h
  | [], h | [_], h | [_, _], h | [_, _, _], h => simp [getu4] at h

/-- `"` passes none of the tests `decodeRune` makes on a byte after the first: it is no continuation
    byte, and it lies below the least second byte of a three-byte and of a four-byte form -/
theorem quote_not_cont : isCont 34 = false := by decide

theorem quote_lt_second3 (b0 : UInt8) : decide ((if b0 = 0xE0 then (0xA0 : UInt8) else 0x80) ≤ 34) = false := by
  split <;> decide

theorem quote_lt_second4 (b0 : UInt8) : decide ((if b0 = 0xF0 then (0x90 : UInt8) else 0x80) ≤ 34) = false := by
  split <;> decide

theorem ite_pair {α} (C : Prop) [Decidable C] (x y : α) (r s q : Bytes) :
    (if C then (x, r ++ q) else (y, s ++ q)) = ((if C then (x, r) else (y, s)).1, (if C then (x, r) else (y, s)).2 ++ q) := by
  by_cases h : C <;> simp [h]

/-- `decodeRune` looks at most three bytes ahead.  If `rest` is at least as long as the look-ahead, `q` is
    not seen (`ite_pair`).  If it is shorter, one of the bytes that are seen is the `"` of `hq`, which
    fails the test it is put to (`quote_not_cont`, `quote_lt_second3`, `quote_lt_second4`): the sequence is
    invalid with `q` as it was truncated without, and either way one byte is consumed. -/
theorem decodeRune_ext (b0 : UInt8) (rest q : Bytes) (hq : 34 ∈ rest) :
    decodeRune b0 (rest ++ q) = ((decodeRune b0 rest).1, (decodeRune b0 rest).2 ++ q) := by
  unfold decodeRune
  conv => zeta
  by_cases h1 : b0 < 0x80
  · simp only [h1, if_true]
  · simp only [h1, if_false]
    by_cases h2 : (decide (0xC2 ≤ b0) && decide (b0 ≤ 0xDF)) = true
    · simp only [h2, if_true]
      cases rest with
      | nil => simp at hq
      | cons b1 r => exact ite_pair _ _ _ _ _ _
    · simp only [h2, Bool.false_eq_true, if_false]
      by_cases h3 : (decide (0xE0 ≤ b0) && decide (b0 ≤ 0xEF)) = true
      · simp only [h3, if_true]
        match rest, hq with
        | b1 :: b2 :: r, _ => exact ite_pair _ _ _ _ _ _
        | [b1], hq =>
          have hb : b1 = 34 := (by simpa using hq : (34 : UInt8) = b1).symm
          subst hb
          cases q with
          | nil => rfl
          | cons c q' =>
            simp only [List.cons_append, List.nil_append, quote_lt_second3, Bool.false_and, Bool.false_eq_true, if_false]
      · simp only [h3, Bool.false_eq_true, if_false]
        by_cases h4 : (decide (0xF0 ≤ b0) && decide (b0 ≤ 0xF4)) = true
        · simp only [h4, if_true]
          match rest, hq with
          | b1 :: b2 :: b3 :: r, _ => exact ite_pair _ _ _ _ _ _
          | [b1], hq =>
            have hb : b1 = 34 := (by simpa using hq : (34 : UInt8) = b1).symm
            subst hb
            match q with
            | [] => rfl
            | [c] => rfl
            | c :: d :: q' =>
              simp only [List.cons_append, List.nil_append, quote_lt_second4, Bool.false_and, Bool.false_eq_true, if_false]
          | [b1, b2], hq =>
            have hb : b1 = 34 ∨ b2 = 34 := by
              have : (34 : UInt8) = b1 ∨ (34 : UInt8) = b2 := by simpa using hq
              exact this.imp Eq.symm Eq.symm
            match q with
            | [] => rfl
            | c :: q' =>
              simp only [List.cons_append, List.nil_append]
              rcases hb with rfl | rfl
              · simp only [quote_lt_second4, Bool.false_and, Bool.false_eq_true, if_false]
              · simp only [quote_not_cont, Bool.and_false, Bool.false_and, Bool.false_eq_true, if_false]
        · simp only [h4, Bool.false_eq_true, if_false]

theorem parseStrBody_u_none (f : Nat) (r2 : Bytes) (h : getu4 r2 = none) : parseStrBody f (92 :: 117 :: r2) = none := by
  cases f with
  | zero => simp [parseStrBody]
  | succ f => simp [parseStrBody, h]

/-- what `surrogate` leaves is a suffix of its input; and if that holds a quote and is itself the start
    of a string body, the bytes after the input cannot change what `surrogate` sees (a look-ahead that
    ran into the end of the input found `"`, `\"` or `\u` with a quote among the next four bytes: none
    of them the start of a body) -/
theorem surrogate_ext (rr : Nat) (r1 : Bytes) :
    (∃ pre, r1 = pre ++ (surrogate rr r1).2) ∧ ∀ (q : Bytes) {f : Nat} {y : Str × Bytes},
      34 ∈ (surrogate rr r1).2 → parseStrBody f (surrogate rr r1).2 = some y →
      surrogate rr (r1 ++ q) = ((surrogate rr r1).1, (surrogate rr r1).2 ++ q) := by
  match r1 with
  | [] => exact ⟨⟨[], rfl⟩, fun q f y hq _ => by simp [surrogate] at hq⟩
  | [a] =>
    refine ⟨⟨[], by simp [surrogate]⟩, fun q f y hq _ => ?_⟩
    obtain rfl : a = 34 := by simpa [surrogate, eq_comm] using hq
    simp [surrogate]
  | a :: c :: r2 =>
    by_cases hac : a = 92 ∧ c = 117
    · obtain ⟨rfl, rfl⟩ := hac
      cases hg : getu4 r2 with
      | none =>
        refine ⟨⟨[], by simp only [surrogate, hg]; rfl⟩, fun q f y _ hp => ?_⟩
        simp only [surrogate, hg] at hp
        rw [parseStrBody_u_none f r2 hg] at hp; cases hp
      | some g =>
        obtain ⟨rr1, r3⟩ := g
        obtain ⟨pre, rfl, hg'⟩ := getu4_some r2 rr1 r3 hg
        simp only [surrogate, List.cons_append, hg, List.append_assoc, hg']
        by_cases hc : (decide (rr < 0xDC00) && decide (0xDC00 ≤ rr1) && decide (rr1 < 0xE000)) = true
        · simp only [hc, if_true]
          exact ⟨⟨92 :: 117 :: pre, rfl⟩, fun _ _ _ _ _ => trivial⟩
        · simp only [hc, Bool.false_eq_true, if_false, List.cons_append, List.append_assoc]
          exact ⟨⟨[], rfl⟩, fun _ _ _ _ _ => trivial⟩
    · have e : ∀ t, surrogate rr (a :: c :: t) = (replacementChar, a :: c :: t) := by
        intro t; unfold surrogate; split
        · rename_i heq; simp only [List.cons.injEq] at heq; exact absurd ⟨heq.1, heq.2.1⟩ hac
        · rfl
      exact ⟨⟨[], by rw [e]; rfl⟩, fun q f y _ _ => by rw [List.cons_append, List.cons_append, e, e]; rfl⟩

/-- one step: what it leaves is a suffix of its input; and if that holds a quote and is the start of a
    string body, what follows the input does not matter -/
theorem strChar_ext (b : UInt8) (rest : Bytes) (c : Char) (r : Bytes) (h : strChar b rest = some (c, r)) :
    (∃ pre, rest = pre ++ r) ∧ ∀ (q : Bytes) {f : Nat} {y : Str × Bytes}, 34 ∈ r → parseStrBody f r = some y →
      strChar b (rest ++ q) = some (c, r ++ q) := by
  unfold strChar at h
  by_cases hlo : b < 0x20; · rw [if_pos hlo] at h; cases h
  rw [if_neg hlo] at h
  by_cases h92 : b = 92
  · subst h92
    rw [if_pos rfl] at h
    match rest, h with
    | e :: rest', h =>
      dsimp only at h
      by_cases e9 : e = 117
      · rw [if_pos e9] at h
        obtain ⟨⟨rr, r1⟩, hg, h2⟩ := Option.map_eq_some_iff.mp h
        obtain ⟨pre1, rfl, hg'⟩ := getu4_some rest' rr r1 hg
        dsimp only at h2
        split at h2
        · rename_i hs
          obtain ⟨⟨pre, hp⟩, hsx⟩ := surrogate_ext rr r1
          rw [h2] at hp
          refine ⟨⟨e :: pre1 ++ pre, by rw [hp]; simp⟩, fun q f y hq hy => ?_⟩
          simp only [strChar, hlo, e9, eq_self, if_true, if_false, List.cons_append, List.append_assoc, hg', Option.map_some,
            hs, hsx q (by rw [h2]; exact hq) (by rw [h2]; exact hy), h2]
        · rename_i hs
          cases h2
          exact ⟨⟨e :: pre1, rfl⟩, fun q f y _ _ => by
            simp only [strChar, hlo, e9, eq_self, if_true, if_false, Bool.false_eq_true, List.cons_append, List.append_assoc, hg',
              Option.map_some, hs]⟩
      · rw [if_neg e9] at h
        obtain ⟨c', hu, h⟩ := Option.map_eq_some_iff.mp h
        cases h
        exact ⟨⟨[e], rfl⟩, fun q f y _ _ => by
          simp only [strChar, hlo, e9, eq_self, if_true, if_false, List.cons_append, hu, Option.map_some]⟩
  · rw [if_neg h92] at h
    have e := Option.some.inj h
    obtain ⟨pre, hpre⟩ := decodeRune_suffix b rest
    rw [e] at hpre
    exact ⟨⟨pre, hpre⟩, fun q f y hq _ => by
      simp only [strChar, hlo, h92, if_false, decodeRune_ext b rest q (hpre ▸ List.mem_append_right _ hq), e]⟩

/-- **string bodies** (C08): an accepted string body contains its closing quote, and whatever follows the
    input does not matter (nor does extra fuel) -/
theorem parseStrBody_ext : ∀ (f : Nat) (x : Bytes) (s : Str) (r : Bytes), parseStrBody f x = some (s, r) →
    34 ∈ x ∧ ∀ (f' : Nat) (q : Bytes), f ≤ f' → parseStrBody f' (x ++ q) = some (s, r ++ q)
  | 0, _, _, _, h => by simp [parseStrBody] at h
  | _ + 1, [], _, _, h => by simp [parseStrBody] at h
  | f + 1, b :: rest, s, r, h => by
    rw [parseStrBody_cons] at h
    by_cases h34 : b = 34
    · rw [if_pos h34] at h; cases h
      refine ⟨by simp [h34], fun f' q hf => ?_⟩
      obtain ⟨f', rfl⟩ : ∃ n, f' = n + 1 := ⟨f' - 1, by omega⟩
      rw [List.cons_append, parseStrBody_cons, if_pos h34]
    · rw [if_neg h34] at h
      obtain ⟨⟨c, r1⟩, hc, h⟩ := Option.bind_eq_some_iff.mp h
      obtain ⟨⟨s', r'⟩, hs, e⟩ := Option.map_eq_some_iff.mp h
      cases e
      have ih := parseStrBody_ext f r1 s' r hs
      obtain ⟨⟨pre, hpre⟩, hext⟩ := strChar_ext b rest c r1 hc
      refine ⟨List.mem_cons_of_mem _ (hpre ▸ List.mem_append_right _ ih.1), fun f' q hf => ?_⟩
      obtain ⟨f', rfl⟩ : ∃ n, f' = n + 1 := ⟨f' - 1, by omega⟩
      rw [List.cons_append, parseStrBody_cons, if_neg h34, hext q ih.1 hs, Option.bind_some,
        ih.2 f' q (by omega)]
      rfl

theorem skipWs_append (x q : Bytes) : skipWs (x ++ q) = if skipWs x = [] then skipWs q else skipWs x ++ q := by
  simp only [skipWs_eq_dropWhile, List.dropWhile_append, List.isEmpty_iff]

theorem skipWs_ext (x q : Bytes) (b : UInt8) (t : Bytes) (h : skipWs x = b :: t) : skipWs (x ++ q) = b :: (t ++ q) := by
  rw [skipWs_append, h]; rfl

theorem skipWs_suffix : ∀ (x : Bytes), ∃ pre, x = pre ++ skipWs x :=
  fun x => ⟨x.takeWhile isWs, by rw [skipWs_eq_dropWhile, List.takeWhile_append_dropWhile]⟩

theorem endsValue_ext (r q : Bytes) (hne : r ≠ []) (h : endsValue r = true) : endsValue (r ++ q) = true := by
  cases r with
  | nil => exact absurd rfl hne
  | cons b t => simpa [endsValue] using h

/-- the same as `!v.isScalar` (Model/Json.lean) -/
def isContainer : J → Bool
  | .obj _ => true
  | .arr _ => true
  | _ => false

/-- a literal followed by a delimiter: it re-parses alone (`parseNumber_self`), and then in front of that
    delimiter and anything after it -/
theorem parseNumber_ext_delim (x q lit r : Bytes) (h : parseNumber x = some (lit, r)) (hne : r ≠ []) (he : endsValue r = true) :
    parseNumber (x ++ q) = some (lit, r ++ q) := by
  have := parseNumber_append (r ++ q) (endsValue_ext r q hne he) lit
  rw [parseNumber_self x lit r h he] at this
  rw [(parseNumber_scanned x lit r h).1, List.append_assoc, this]
  simp

theorem skipWs_cons_ne (b : UInt8) (t : Bytes) (x : Bytes) (h : skipWs x = b :: t) : isWs b = false := by
  have := List.head?_dropWhile_not isWs x
  rwa [← skipWs_eq_dropWhile, h] at this

/-- the head of the white-space-skipped input survives appending, and so does a test it failed -/
theorem skipWs_ext_ne {y : Bytes} (q : Bytes) {c : UInt8} (h0 : skipWs y ≠ []) (hne : ∀ t, skipWs y ≠ c :: t) :
    ∀ t, skipWs (y ++ q) ≠ c :: t := by
  cases hs : skipWs y with
  | nil => exact absurd hs h0
  | cons b t0 =>
    intro t e
    rw [skipWs_ext y q b t0 hs] at e
    exact hne t0 (by rw [hs, (List.cons.inj e).1])

theorem ne_nil_of_skipWs {r : Bytes} {b : UInt8} {t : Bytes} (h : skipWs r = b :: t) : r ≠ [] := by
  rintro rfl; cases h

/-- a scalar must be followed by something: its end-of-value test has then seen a delimiter, not the
    end of the input -/
def Item.Closed (r : Bytes) : Item → Prop
  | .val v => isContainer v = true ∨ r ≠ []
  | _ => True

/-- **what follows does not matter**, nor does more fuel — for the three parser functions at once,
    token by token: each `skipWs` head, string body, literal and number survives appending `q` -/
theorem Parses.ext {f x i r} (h : Parses f x i r) (d : Nat) (q : Bytes) : i.Closed r → Parses (d + f) (x ++ q) i (r ++ q) := by
  have sb := fun {y s r'} (h : parseStrBody (y.length + 1) y = some (s, r')) =>
    (parseStrBody_ext _ y s r' h).2 ((y ++ q).length + 1) q (by simp)
  induction h with
  | objNil hx hy => exact fun _ => .objNil (skipWs_ext _ q _ _ hx) (skipWs_ext _ q _ _ hy)
  | obj hx hne hm ih => exact fun _ => .obj (skipWs_ext _ q _ _ hx) (skipWs_ext_ne q hm.skipWs_ne_nil hne) (ih trivial)
  | arrNil hx hy => exact fun _ => .arrNil (skipWs_ext _ q _ _ hx) (skipWs_ext _ q _ _ hy)
  | arr hx hne hm ih => exact fun _ => .arr (skipWs_ext _ q _ _ hx) (skipWs_ext_ne q hm.skipWs_ne_nil hne) (ih trivial)
  | str hx hs he =>
    intro hc
    exact .str (skipWs_ext _ q _ _ hx) (sb hs) (endsValue_ext _ q (hc.resolve_left (by simp [isContainer])) he)
  | lit hm hx hp he =>
    intro hc
    have hr := hc.resolve_left (by
      simp only [litTable, List.mem_cons, List.mem_nil_iff, or_false, Prod.mk.injEq] at hm
      rcases hm with ⟨_, _, rfl⟩ | ⟨_, _, rfl⟩ | ⟨_, _, rfl⟩ <;> simp [isContainer])
    exact .lit hm (skipWs_ext _ q _ _ hx) (stripPrefix_eq_some.mpr (by rw [stripPrefix_eq_some.mp hp, List.append_assoc])) (endsValue_ext _ q hr he)
  | num hx hb hp he =>
    intro hc
    have hr := hc.resolve_left (by simp [isContainer])
    exact .num (skipWs_ext _ q _ _ hx) hb (parseNumber_ext_delim _ q _ _ hp hr he) (endsValue_ext _ q hr he)
  | memLast hx hk h1 _ h3 ihv =>
    exact fun _ => .memLast (skipWs_ext _ q _ _ hx) (sb hk) (skipWs_ext _ q _ _ h1)
      (ihv (.inr (ne_nil_of_skipWs h3))) (skipWs_ext _ q _ _ h3)
  | memMore hx hk h1 _ h3 hne hm ihv ihm =>
    exact fun _ => .memMore (skipWs_ext _ q _ _ hx) (sb hk) (skipWs_ext _ q _ _ h1)
      (ihv (.inr (ne_nil_of_skipWs h3))) (skipWs_ext _ q _ _ h3) (skipWs_ext_ne q hm.skipWs_ne_nil hne) (ihm trivial)
  | elemLast _ h1 ihv => exact fun _ => .elemLast (ihv (.inr (ne_nil_of_skipWs h1))) (skipWs_ext _ q _ _ h1)
  | elemMore _ h1 hne hm ihv ihe =>
    exact fun _ => .elemMore (ihv (.inr (ne_nil_of_skipWs h1))) (skipWs_ext _ q _ _ h1)
      (skipWs_ext_ne q hm.skipWs_ne_nil hne) (ihe trivial)

/-- **what follows a value does not matter** (C08), as statements about the three functions -/
theorem parseValue_ext : ∀ (fuel : Nat) (x : Bytes) (v : J) (r : Bytes), parseValue fuel x = some (v, r) →
    (isContainer v = true ∨ r ≠ []) → ∀ (fuel' : Nat) (q : Bytes), fuel ≤ fuel' → parseValue fuel' (x ++ q) = some (v, r ++ q) :=
  fun fuel x v r h hc fuel' q hf =>
    Nat.sub_add_cancel hf ▸ ((parseValue_sound fuel x v r h).ext (fuel' - fuel) q hc).complete
theorem parseMembers_ext : ∀ (fuel : Nat) (x : Bytes) (acc kvs : List (Str × J)) (r : Bytes),
    parseMembers fuel x acc = some (kvs, r) →
    ∀ (fuel' : Nat) (q : Bytes), fuel ≤ fuel' → parseMembers fuel' (x ++ q) acc = some (kvs, r ++ q) :=
  fun fuel x acc kvs r h fuel' q hf =>
    Nat.sub_add_cancel hf ▸ ((parseMembers_sound fuel x acc kvs r h).ext (fuel' - fuel) q trivial).complete
theorem parseElems_ext : ∀ (fuel : Nat) (x : Bytes) (xs : List J) (r : Bytes),
    parseElems fuel x = some (xs, r) →
    ∀ (fuel' : Nat) (q : Bytes), fuel ≤ fuel' → parseElems fuel' (x ++ q) = some (xs, r ++ q) :=
  fun fuel x xs r h fuel' q hf =>
    Nat.sub_add_cancel hf ▸ ((parseElems_sound fuel x xs r h).ext (fuel' - fuel) q trivial).complete

/-- **an accepted line and anything appended to it** (C06, C08): if `p` is accepted as a log line (one JSON object,
    then white space only), then `p ++ q` is accepted exactly when `q` is white space, and then as the
    SAME object -/
theorem parseObj_append (p q : Bytes) (kvs : List (Str × J)) (h : parseObj p = some kvs) :
    parseObj (p ++ q) = if (skipWs q).isEmpty then some kvs else none := by
  obtain ⟨r, hp, hr⟩ := parseObj_some h
  have := (hp.ext q.length q (.inl rfl)).complete
  unfold parseObj
  rw [show (p ++ q).length + 1 = q.length + (p.length + 1) by rw [List.length_append]; omega, this]
  simp only [skipWs_append, if_pos hr]

/-- **a line cut inside its object is never accepted** (C08): if `p ++ q` is accepted and `q` holds anything
    but white space, the prefix `p` is rejected -/
theorem parseObj_cut_rejected (p q : Bytes) (kvs : List (Str × J)) (h : parseObj (p ++ q) = some kvs)
    (hq : (skipWs q).isEmpty = false) : parseObj p = none := by
  cases hp : parseObj p with
  | none => rfl
  | some kvs' => rw [parseObj_append p q kvs' hp, hq] at h; cases h

theorem parseObj_prefix_same (p q : Bytes) (a b : List (Str × J)) (h1 : parseObj p = some a) (h2 : parseObj (p ++ q) = some b) :
    b = a := by
  rw [parseObj_append p q a h1] at h2
  split at h2
  · exact (Option.some.inj h2).symm
  · cases h2

end Anonymongo
