/-
  Lemmas/Parses.lean — the parser as a relation.  `Parses fuel x i r`: one constructor per way a call of
  `parseValue` / `parseMembers` / `parseElems` (`i : Item` says which, and what it returns) succeeds on `x` leaving `r`.
  The nested matches of the three functions are taken apart once (`parse…_sound`) and put together once
  (`Parses.complete`); every other fact about the parser (Lemmas/ParsePred, ParseExt, JsonRound, Props/Src/ParseDepth)
  is an induction over derivations or builds one from the constructors.
-/
import Anonymongo.Model.JsonText
namespace Anonymongo

/-- what one of the three mutually recursive parser functions is given and returns -/
inductive Item
  | val (v : J)
  | mems (acc kvs : List (Str × J))
  | elems (xs : List J)

/-- the three literals: first byte, remaining text, value -/
def litTable : List (UInt8 × String × J) := [(116, "rue", .bool true), (102, "alse", .bool false), (110, "ull", .null)]

/-- the first bytes `parseValue` tests for before it tries a number -/
def notNumStart : List UInt8 := [123, 91, 34, 116, 102, 110]

inductive Parses : Nat → Bytes → Item → Bytes → Prop
  | objNil : skipWs x = 123 :: y → skipWs y = 125 :: r → Parses (f + 1) x (.val (.obj [])) r
  | obj : skipWs x = 123 :: y → (∀ t, skipWs y ≠ 125 :: t) → Parses f y (.mems [] kvs) r →
      Parses (f + 1) x (.val (.obj kvs)) r
  | arrNil : skipWs x = 91 :: y → skipWs y = 93 :: r → Parses (f + 1) x (.val (.arr [])) r
  | arr : skipWs x = 91 :: y → (∀ t, skipWs y ≠ 93 :: t) → Parses f y (.elems xs) r →
      Parses (f + 1) x (.val (.arr xs)) r
  | str : skipWs x = 34 :: y → parseStrBody (y.length + 1) y = some (s, r) → endsValue r = true →
      Parses (f + 1) x (.val (.str s)) r
  | lit : (b, w, v) ∈ litTable → skipWs x = b :: y → stripPrefix (asciiBytes w) y = some r →
      endsValue r = true → Parses (f + 1) x (.val v) r
  | num : skipWs x = b :: y → b ∉ notNumStart → parseNumber (b :: y) = some (lit, r) →
      endsValue r = true → Parses (f + 1) x (.val (.num (lit.map fun c => Char.ofNat c.toNat))) r
  | memLast : skipWs x = 34 :: y → parseStrBody (y.length + 1) y = some (k, r1) →
      skipWs r1 = 58 :: r2 → Parses f r2 (.val v) r3 → skipWs r3 = 125 :: r →
      Parses (f + 1) x (.mems acc (setKV k v acc)) r
  | memMore : skipWs x = 34 :: y → parseStrBody (y.length + 1) y = some (k, r1) →
      skipWs r1 = 58 :: r2 → Parses f r2 (.val v) r3 → skipWs r3 = 44 :: r4 → (∀ t, skipWs r4 ≠ 125 :: t) →
      Parses f r4 (.mems (setKV k v acc) kvs) r → Parses (f + 1) x (.mems acc kvs) r
  | elemLast : Parses f x (.val v) r1 → skipWs r1 = 93 :: r → Parses (f + 1) x (.elems [v]) r
  | elemMore : Parses f x (.val v) r1 → skipWs r1 = 44 :: r2 → (∀ t, skipWs r2 ≠ 93 :: t) →
      Parses f r2 (.elems xs) r → Parses (f + 1) x (.elems (v :: xs)) r

/-- `skipWs` drops the leading white space: what there is to know about it are facts about `List.dropWhile` -/
theorem skipWs_eq_dropWhile : ∀ x, skipWs x = x.dropWhile isWs
  | [] => rfl
  | b :: x => by simp only [skipWs, List.dropWhile_cons, skipWs_eq_dropWhile x]

theorem skipWs_idem_cons (b : UInt8) (t : Bytes) (hw : isWs b = false) : skipWs (b :: t) = b :: t := by
  simp [skipWs, hw]

theorem stripPrefix_eq_some : ∀ {p x r : Bytes}, stripPrefix p x = some r ↔ x = p ++ r
  | [], x, r => by simp [stripPrefix]
  | a :: p, [], r => by simp [stripPrefix]
  | a :: p, b :: x, r => by
    simp only [stripPrefix, List.cons_append, List.cons.injEq]
    split
    · rename_i h; simp [h, stripPrefix_eq_some (p := p)]
    · rename_i h; simp [Ne.symm h]

mutual
/-- every successful call has a derivation -/
theorem parseValue_sound : ∀ (fuel : Nat) (x : Bytes) (v : J) (r : Bytes), parseValue fuel x = some (v, r) →
    Parses fuel x (.val v) r
  | 0, _, _, _, h => by simp [parseValue] at h
  | fuel + 1, x, v, r, h => by
    simp only [parseValue] at h
    split at h
    · cases h
    · rename_i y hx                                       -- '{'
      split at h
      · rename_i r' hy; cases h; exact .objNil hx hy
      · rename_i hne
        obtain ⟨⟨kvs, r'⟩, hm, he⟩ := Option.map_eq_some_iff.mp h
        cases he; exact .obj hx hne (parseMembers_sound fuel y [] kvs _ hm)
    · rename_i y hx                                       -- '['
      split at h
      · rename_i r' hy; cases h; exact .arrNil hx hy
      · rename_i hne
        obtain ⟨⟨xs, r'⟩, hm, he⟩ := Option.map_eq_some_iff.mp h
        cases he; exact .arr hx hne (parseElems_sound fuel y xs _ hm)
    · rename_i y hx                                       -- '"'
      split at h
      · rename_i s r' hs
        split at h
        · rename_i he; cases h; exact .str hx hs he
        · cases h
      · cases h
    · rename_i b y h123 h91 h34 hx                        -- a literal or a number
      have lit : ∀ {w : String} {val : J}, (match stripPrefix (asciiBytes w) y with
            | some r => if endsValue r = true then some (val, r) else none
            | none => none) = some (v, r) → (b, w, val) ∈ litTable → Parses (fuel + 1) x (.val v) r := by
        intro w val h hm
        split at h
        · rename_i r' hp
          split at h
          · rename_i he; cases h; exact .lit hm hx hp he
          · cases h
        · cases h
      by_cases h116 : b = 116; · rw [if_pos h116] at h; exact lit h (by simp [litTable, h116])
      by_cases h102 : b = 102; · rw [if_neg h116, if_pos h102] at h; exact lit h (by simp [litTable, h102])
      by_cases h110 : b = 110
      · rw [if_neg h116, if_neg h102, if_pos h110] at h; exact lit h (by simp [litTable, h110])
      rw [if_neg h116, if_neg h102, if_neg h110] at h
      split at h
      · rename_i l r' hp
        split at h
        · rename_i he; cases h
          refine .num hx ?_ hp he
          simp only [notNumStart, List.mem_cons, List.mem_nil_iff, or_false, not_or]
          exact ⟨h123, h91, h34, h116, h102, h110⟩
        · cases h
      · cases h
theorem parseMembers_sound : ∀ (fuel : Nat) (x : Bytes) (acc kvs : List (Str × J)) (r : Bytes),
    parseMembers fuel x acc = some (kvs, r) → Parses fuel x (.mems acc kvs) r
  | 0, _, _, _, _, h => by simp [parseMembers] at h
  | fuel + 1, x, acc, kvs, r, h => by
    simp only [parseMembers] at h
    split at h
    · rename_i y hx
      split at h
      · cases h
      · rename_i k r1 hk
        split at h
        · rename_i r2 h1
          split at h
          · cases h
          · rename_i v r3 hv
            split at h
            · rename_i r4 h3
              split at h
              · cases h
              · rename_i hne
                exact .memMore hx hk h1 (parseValue_sound fuel r2 v r3 hv) h3 hne (parseMembers_sound fuel r4 _ kvs r h)
            · rename_i r4 h3; cases h; exact .memLast hx hk h1 (parseValue_sound fuel r2 v r3 hv) h3
            · cases h
        · cases h
    · cases h
theorem parseElems_sound : ∀ (fuel : Nat) (x : Bytes) (xs : List J) (r : Bytes),
    parseElems fuel x = some (xs, r) → Parses fuel x (.elems xs) r
  | 0, _, _, _, h => by simp [parseElems] at h
  | fuel + 1, x, xs, r, h => by
    simp only [parseElems] at h
    split at h
    · cases h
    · rename_i v r1 hv
      split at h
      · rename_i r2 hs
        split at h
        · cases h
        · rename_i hne
          obtain ⟨⟨ys, r'⟩, hm, he⟩ := Option.map_eq_some_iff.mp h
          cases he; exact .elemMore (parseValue_sound fuel x v r1 hv) hs hne (parseElems_sound fuel r2 ys _ hm)
      · rename_i r2 hs; cases h; exact .elemLast (parseValue_sound fuel x v r1 hv) hs
      · cases h
end

theorem parseObj_some {bs : Bytes} {e : List (Str × J)} (h : parseObj bs = some e) :
    ∃ r, Parses (bs.length + 1) bs (.val (.obj e)) r ∧ skipWs r = [] := by
  unfold parseObj at h
  split at h
  · rename_i kvs r hp
    split at h
    · rename_i hw; cases h; exact ⟨r, parseValue_sound _ _ _ _ hp, List.isEmpty_iff.mp hw⟩
    · cases h
  · cases h

/-- the call a derivation describes -/
def Item.Ran (f : Nat) (x r : Bytes) : Item → Prop
  | .val v => parseValue f x = some (v, r)
  | .mems acc kvs => parseMembers f x acc = some (kvs, r)
  | .elems xs => parseElems f x = some (xs, r)

/- The arms `| 125 :: _ => …` / `| 93 :: _ => …` that a derivation excludes by a hypothesis
   `∀ t, skipWs y ≠ … :: t` are disposed of by `simp only`, which finds that hypothesis in the context. -/
theorem Parses.complete {f x i r} (h : Parses f x i r) : i.Ran f x r := by
  induction h
  all_goals simp only [Item.Ran] at *
  case objNil hx hy => simp only [parseValue, hx, hy]
  case obj hx hne _ ih => simp only [parseValue, hx, ih]; rfl
  case arrNil hx hy => simp only [parseValue, hx, hy]
  case arr hx hne _ ih => simp only [parseValue, hx, ih]; rfl
  case str hx hs he => simp only [parseValue, hx, hs, he, if_true]
  case lit hm hx hp he =>
    simp only [litTable, List.mem_cons, List.mem_nil_iff, or_false, Prod.mk.injEq] at hm
    rcases hm with ⟨rfl, rfl, rfl⟩ | ⟨rfl, rfl, rfl⟩ | ⟨rfl, rfl, rfl⟩ <;> simp [parseValue, hx, hp, he]
  case num hx hb hp he =>
    simp only [notNumStart, List.mem_cons, List.mem_nil_iff, or_false, not_or] at hb
    simp only [parseValue, hx]
    split
    · rename_i heq; cases heq
    · rename_i heq; exact absurd (List.cons.inj heq).1 hb.1
    · rename_i heq; exact absurd (List.cons.inj heq).1 hb.2.1
    · rename_i heq; exact absurd (List.cons.inj heq).1 hb.2.2.1
    · rename_i heq; cases heq
      simp only [hb.2.2.2.1, hb.2.2.2.2.1, hb.2.2.2.2.2, if_false, hp, he, if_true]
  case memLast hx hk h1 _ h3 ihv => simp only [parseMembers, hx, hk, h1, ihv, h3]
  case memMore hx hk h1 _ h3 hne _ ihv ihm => simp only [parseMembers, hx, hk, h1, ihv, h3, ihm]
  case elemLast _ h1 ihv => simp only [parseElems, ihv, h1]
  case elemMore _ h1 hne _ ihv ihe => simp only [parseElems, ihv, h1, ihe]; rfl

/-- the input of a derivation is not white space only (a constructor fixes the head of `skipWs x`, or starts with a value) -/
theorem Parses.skipWs_ne_nil {f x i r} (h : Parses f x i r) : skipWs x ≠ [] := by
  induction h <;> simp_all

end Anonymongo
