/-
  Lemmas/Siv.lean — the two DAEAD laws for the SIV construction, for ARBITRARY block functions:
  * `dec (enc p) = some p`                       (round trip)
  * `dec c = some p → c = enc p`                 (whatever is accepted is the genuine encryption of what is returned)
  Nothing is assumed about AES beyond "a block function returns 16 bytes".  Both hold for any 16-byte tag function,
  because CTR under one SIV is an involution (`ctr_ctr`).
-/
import Anonymongo.Model.Siv
namespace Anonymongo.Siv
open Anonymongo.Aes (xorBytes fix16 fix16_length)

theorem xorBytes_length (a b : Bytes) : (xorBytes a b).length = min a.length b.length := by
  simp [xorBytes]

theorem xor_cancel (x k : UInt8) : (x ^^^ k) ^^^ k = x := by
  rw [UInt8.xor_assoc, UInt8.xor_self, UInt8.xor_zero]

theorem xorBytes_cancel : ∀ (x ks : Bytes), x.length ≤ ks.length → xorBytes (xorBytes x ks) ks = x
  | [], _, _ => by simp [xorBytes]
  | _ :: _, [], h => by simp at h
  | a :: x, k :: ks, h => by
    have ih := xorBytes_cancel x ks (by simpa using h)
    simp only [xorBytes, List.zipWith_cons_cons] at ih ⊢
    rw [xor_cancel, ih]

theorem keystream_length (E : Bytes → Bytes) (hE : ∀ x, (E x).length = 16) (iv : Bytes) (len : Nat) :
    (keystream E iv len).length = 16 * ((len + 15) / 16) := by
  unfold keystream
  generalize (len + 15) / 16 = n
  induction n with
  | zero => simp
  | succ n ih =>
    rw [List.range_succ, List.flatMap_append, List.length_append, ih]
    simp [hE]; omega

theorem keystream_covers (E : Bytes → Bytes) (hE : ∀ x, (E x).length = 16) (iv : Bytes) (len : Nat) :
    len ≤ (keystream E iv len).length := by
  rw [keystream_length E hE]; omega

theorem ctr_length (E : Bytes → Bytes) (hE : ∀ x, (E x).length = 16) (v x : Bytes) : (ctr E v x).length = x.length := by
  unfold ctr
  rw [xorBytes_length]
  exact Nat.min_eq_left (keystream_covers E hE _ _)

/-- CTR under the same SIV is an involution (C09) -/
theorem ctr_ctr (E : Bytes → Bytes) (hE : ∀ x, (E x).length = 16) (v x : Bytes) : ctr E v (ctr E v x) = x := by
  have hl := ctr_length E hE v x
  unfold ctr at hl ⊢
  rw [hl]
  exact xorBytes_cancel x _ (keystream_covers E hE _ _)

/-- **round trip** (C09) for any 16-byte tag function and any block function -/
theorem decWith_encWith (tag E2 : Bytes → Bytes) (ht : ∀ p, (tag p).length = 16) (hE : ∀ x, (E2 x).length = 16) (p : Bytes) :
    decWith tag E2 (encWith tag E2 p) = some p := by
  unfold decWith encWith
  have h16 := ht p
  simp only [List.length_append, h16]
  rw [if_neg (by omega)]
  have htake : (tag p ++ ctr E2 (tag p) p).take 16 = tag p := by
    rw [← h16]; exact List.take_left
  have hdrop : (tag p ++ ctr E2 (tag p) p).drop 16 = ctr E2 (tag p) p := by
    rw [← h16]; exact List.drop_left
  simp only [htake, hdrop, ctr_ctr E2 hE, if_true]

/-- **authenticity, provable form** (C09): an accepted ciphertext IS the encryption of the plaintext returned -/
theorem decWith_only (tag E2 : Bytes → Bytes) (hE : ∀ x, (E2 x).length = 16) (c p : Bytes)
    (h : decWith tag E2 c = some p) : c = encWith tag E2 p := by
  unfold decWith at h
  split at h
  · cases h
  · dsimp only at h   -- the two `let`s of `decWith`
    split at h
    · rename_i htag
      injection h with hp
      show c = tag p ++ ctr E2 (tag p) p
      rw [← hp, htag, ctr_ctr E2 hE, List.take_append_drop]
    · cases h

theorem cbc_length (E : Bytes → Bytes) (hE : ∀ x, (E x).length = 16) : ∀ n x msg last, (cbc E n x msg last).length = 16
  | 0, _, _, _ => hE _
  | n + 1, _, _, _ => cbc_length E hE n _ _ _

theorem cmac_length (E : Bytes → Bytes) (hE : ∀ x, (E x).length = 16) (msg : Bytes) : (cmac E msg).length = 16 := by
  unfold cmac; split <;> exact cbc_length E hE _ _ _ _

theorem s2v_length (E : Bytes → Bytes) (hE : ∀ x, (E x).length = 16) (msg : Bytes) : (s2v E msg).length = 16 := by
  unfold s2v; split <;> exact cmac_length E hE _

/-- C09, C10: the first law, S2V tag -/
theorem dec_enc (E1 E2 : Bytes → Bytes) (h1 : ∀ x, (E1 x).length = 16) (h2 : ∀ x, (E2 x).length = 16) (p : Bytes) :
    dec E1 E2 (enc E1 E2 p) = some p :=
  decWith_encWith _ _ (s2v_length E1 h1) h2 p

/-- C09: the second law, S2V tag -/
theorem dec_only (E1 E2 : Bytes → Bytes) (h2 : ∀ x, (E2 x).length = 16) (c p : Bytes)
    (h : dec E1 E2 c = some p) : c = enc E1 E2 p :=
  decWith_only _ _ h2 c p h

/-- ciphertext length = plaintext length + 16 (the synthetic IV) -/
theorem enc_length (E1 E2 : Bytes → Bytes) (h1 : ∀ x, (E1 x).length = 16) (h2 : ∀ x, (E2 x).length = 16) (p : Bytes) :
    (enc E1 E2 p).length = p.length + 16 := by
  unfold enc encWith
  simp only [List.length_append, s2v_length E1 h1, ctr_length E2 h2]; omega

theorem aes_dec_enc (key p : Bytes) : aesDec key (aesEnc key p) = some p :=
  dec_enc _ _ (Aes.encBlockRK_length _) (Aes.encBlockRK_length _) p

theorem aes_dec_only (key c p : Bytes) (h : aesDec key c = some p) : c = aesEnc key p :=
  dec_only _ _ (Aes.encBlockRK_length _) c p h

theorem aesEnc_length (key p : Bytes) : (aesEnc key p).length = p.length + 16 :=
  enc_length _ _ (Aes.encBlockRK_length _) (Aes.encBlockRK_length _) p

/-- AES-256-SIV as an instance of the DAEAD interface the glue code is proved against: the laws
    are THEOREMS here, not assumptions -/
def aesDaead : DAEAD where
  enc := aesEnc
  dec := aesDec
  dec_enc := aes_dec_enc
  dec_only := aes_dec_only

end Anonymongo.Siv
