/-
  Lemmas/Prov.lean — PROVENANCE of a table lookup: whatever `getOp` answers for a key path is an
  entry of one of the five operator tables, at a table path that is a SUBSEQUENCE of the key path
  (through the `OperatorArray` restart, the `OperatorMap` cut and the last-key fallbacks): `getOp_prov`.
  This is what ties "the walker kept this literal" to "a table entry at these keys says so", so that
  the whitelist obligation over the regenerated tables (`C01_tables`) speaks about document positions.
-/
import Anonymongo.Spec.Whitelist
namespace Anonymongo

def tbl (T : Tables) : Spec.TableId → MTable
  | .core => T.core
  | .agg => T.agg
  | .search => T.search
  | .searchAgg => T.searchAgg
  | .opMapDefs => T.opMapDefs

/-- the typed entries of `m`, read with prefix `pre`, are entries of table `tb` -/
def Reach (T : Tables) (tb : Spec.TableId) (pre : List Str) (m : MTable) : Prop :=
  ∀ q t, (q, t) ∈ Spec.entries pre m → (q, t) ∈ Spec.entries [] (tbl T tb)

theorem reach_top (T : Tables) (tb : Spec.TableId) : Reach T tb [] (tbl T tb) := fun _ _ h => h

theorem entries_lookup (pre : List Str) (k : Str) : ∀ (m : MTable) (x : Meta), lookup k m = some x →
    ∀ e, e ∈ Spec.entriesMeta (pre ++ [k]) x → e ∈ Spec.entries pre m
  | [], _, h, _, _ => by simp [lookup] at h
  | (k', v) :: rest, x, h, e, he => by
    simp only [lookup] at h
    simp only [Spec.entries, List.mem_append]
    by_cases hk : k' = k
    · simp only [hk, if_true, Option.some.injEq] at h
      subst h; subst hk; exact Or.inl he
    · simp only [hk, if_false] at h
      exact Or.inr (entries_lookup pre k rest x h e he)

mutual
theorem entries_length_lt : ∀ (m : MTable) (pre p : List Str) (t : OpT), (p, t) ∈ Spec.entries pre m → pre.length < p.length
  | [], _, _, _, h => nomatch h
  | (k, x) :: rest, pre, p, t, h => by
    rcases List.mem_append.1 h with h | h
    · have := entriesMeta_length_le x (pre ++ [k]) p t h
      simp only [List.length_append, List.length_singleton] at this; omega
    · exact entries_length_lt rest pre p t h
theorem entriesMeta_length_le : ∀ (x : Meta) (path p : List Str) (t : OpT), (p, t) ∈ Spec.entriesMeta path x → path.length ≤ p.length
  | .ty _, _, _, _, h => by cases List.mem_singleton.1 h; exact Nat.le_refl _
  | .map m, path, p, t, h => Nat.le_of_lt (entries_length_lt m path p t h)
  | .nil, _, _, _, h => nomatch h
end

theorem reach_sub (T : Tables) (tb : Spec.TableId) (pre : List Str) (m m' : MTable) (k : Str)
    (h : Reach T tb pre m) (hl : lookup k m = some (.map m')) : Reach T tb (pre ++ [k]) m' := by
  intro q t hq
  apply h
  apply entries_lookup pre k m (.map m') hl
  simpa [Spec.entriesMeta] using hq

theorem reach_ty (T : Tables) (tb : Spec.TableId) (pre : List Str) (m : MTable) (k : Str) (t : OpT)
    (h : Reach T tb pre m) (hl : lookup k m = some (.ty t)) : (pre ++ [k], t) ∈ Spec.entries [] (tbl T tb) := by
  apply h
  apply entries_lookup pre k m (.ty t) hl
  simp [Spec.entriesMeta]

/-- `m` is one of the tables nested (at any depth) inside `top`, or `top` itself -/
inductive IsSub : MTable → MTable → Prop
  | refl (m : MTable) : IsSub m m
  | step {top m m' : MTable} (k : Str) : IsSub top m → lookup k m = some (.map m') → IsSub top m'

/-- where an answer of the lookup functions comes from.  A sub-table answer carries, besides `Reach` (its typed entries
    are entries of the table), that it IS one of the tables nested in that table (`IsSub`): `Reach` speaks of typed
    entries only, and Lemmas/RelSel needs a property of the table as a list (no key twice, `allNodup_sub`). -/
def ProvAt (T : Tables) (kp : List Str) : Option Meta → Prop
  | some (.ty t) => ∃ tb p, (p, t) ∈ Spec.entries [] (tbl T tb) ∧ p.Sublist kp
  | some (.map m) => ∃ tb pre, Reach T tb pre m ∧ pre.Sublist kp ∧ IsSub (tbl T tb) m
  | _ => True

theorem provAt_lookup (T : Tables) (tb : Spec.TableId) (pre : List Str) (m : MTable) (k : Str) (kp : List Str)
    (h : Reach T tb pre m) (hsub : IsSub (tbl T tb) m) (hs : (pre ++ [k]).Sublist kp) : ∀ x, lookup k m = some x → ProvAt T kp (some x)
  | .ty t, hl => ⟨tb, pre ++ [k], reach_ty T tb pre m k t h hl, hs⟩
  | .map m', hl => ⟨tb, pre ++ [k], reach_sub T tb pre m m' k h hl, hs, .step k hsub hl⟩
  | .nil, _ => trivial

theorem provAt_none (T : Tables) (kp : List Str) : ProvAt T kp none := trivial

theorem provAt_sub (T : Tables) (kp : List Str) (m : MTable) (sk : Str) (h : ProvAt T kp (some (.map m))) :
    ProvAt T (kp ++ [sk]) (lookup sk m) := by
  obtain ⟨tb, pre, hr, hs, hsub⟩ := h
  cases hl : lookup sk m with
  | none => trivial
  | some x => exact provAt_lookup T tb pre m sk _ hr hsub (List.Sublist.append hs (List.Sublist.refl _)) x hl

theorem provAt_top (T : Tables) (tb : Spec.TableId) (kp : List Str) (k : Str) (hs : [k].Sublist kp) :
    ProvAt T kp (lookup k (tbl T tb)) := by
  cases hl : lookup k (tbl T tb) with
  | none => trivial
  | some x => exact provAt_lookup T tb [] _ k _ (reach_top T tb) (.refl _) hs x hl

theorem removeElementAfter_sublist (marker : Str) : ∀ l : List Str, (removeElementAfter marker l).Sublist l
  | [] => by simp [removeElementAfter]
  | [x] => by simp [removeElementAfter]
  | x :: y :: rest => by
    simp only [removeElementAfter]
    split
    · exact List.Sublist.cons_cons x (List.sublist_cons_self y rest)
    · exact List.Sublist.cons_cons x (removeElementAfter_sublist marker (y :: rest))

/-- what follows the first non-final occurrence of the marker, with the marker put back in front,
    is a subsequence of the list -/
theorem removeElementsBeforeIncluding_sublist (marker : Str) : ∀ l : List Str, marker ∈ l → (marker :: removeElementsBeforeIncluding marker l).Sublist l
  | [], h => by simp at h
  | [x], h => by
    simp only [List.mem_singleton] at h
    subst h; simp [removeElementsBeforeIncluding]
  | x :: y :: rest, h => by
    simp only [removeElementsBeforeIncluding]
    by_cases hx : x = marker
    · simp only [hx, if_true]; exact List.Sublist.refl _
    · simp only [hx, if_false]
      have hm : marker ∈ y :: rest := by
        simp only [List.mem_cons] at h ⊢
        rcases h with h | h
        · exact absurd h.symm hx
        · exact h
      exact (removeElementsBeforeIncluding_sublist marker (y :: rest) hm).cons x

theorem removeElementAfter_mem (marker : Str) : ∀ l : List Str, marker ∈ l → marker ∈ removeElementAfter marker l
  | [], h => by simp at h
  | [x], h => by simpa [removeElementAfter] using h
  | x :: y :: rest, h => by
    simp only [removeElementAfter]
    by_cases hx : x = marker
    · simp [hx]
    · simp only [hx, if_false, List.mem_cons]
      simp only [List.mem_cons] at h
      rcases h with h | h
      · exact absurd h.symm hx
      · exact Or.inr (by simpa using removeElementAfter_mem marker (y :: rest) (by simpa using h))

theorem cut_sublist (part : Str) (full : List Str) (h : part ∈ full) :
    (part :: removeElementsBeforeIncluding part (removeElementAfter part full)).Sublist full :=
  (removeElementsBeforeIncluding_sublist part _ (removeElementAfter_mem part full h)).trans (removeElementAfter_sublist part full)

/-- the outcome of one pass of the loop -/
def StepProv (T : Tables) (kp : List Str) : Step → Prop
  | .done r => ProvAt T kp r
  | .restart p t => ∃ tb pre, Reach T tb pre t ∧ (pre ++ p).Sublist kp ∧ IsSub (tbl T tb) t

/-- the loop stands in table `m`, which sits in table `tb` under the keys `pre`; `rest` is what is left of the path
    `full` the loop was entered with (only that its keys are keys of `full` is used: the `OperatorMap` cut is taken
    in `full`) -/
theorem traverseLoop_prov (T : Tables) (S : Bool) (full kp : List Str) (hfull : full.Sublist kp) :
    ∀ (rest : List Str) (m : MTable) (tb : Spec.TableId) (pre : List Str),
      Reach T tb pre m → IsSub (tbl T tb) m → (∀ x ∈ rest, x ∈ full) → (pre ++ rest).Sublist kp →
      StepProv T kp (traverseLoop T S full rest m)
  | [], m, tb, pre, hr, hsub, _, hs => by
    simp only [traverseLoop, StepProv, ProvAt]
    exact ⟨tb, pre, hr, by simpa using hs, hsub⟩
  | part :: rest, m, tb, pre, hr, hsub, hd, hs => by
    have hmem : part ∈ full := hd part List.mem_cons_self
    have hs1 : (pre ++ [part]).Sublist kp := by
      refine List.Sublist.trans ?_ hs
      exact List.Sublist.append (List.Sublist.refl pre) (by simp)
    cases hl : lookup part m with
    | none => simp [traverseLoop, hl, StepProv, ProvAt]
    | some val =>
      have hlk : StepProv T kp (.done (some val)) := provAt_lookup T tb pre m part kp hr hsub hs1 val hl
      simp only [traverseLoop, hl]
      split
      · -- OperatorArray with elements left: restart on the rest in the core / search table
        simp only [StepProv]
        have hrest : rest.Sublist kp :=
          List.Sublist.trans ((List.sublist_cons_self part rest).trans (List.sublist_append_right pre _)) hs
        cases S
        · exact ⟨.core, [], reach_top T .core, by simpa using hrest, .refl _⟩
        · exact ⟨.search, [], reach_top T .search, by simpa using hrest, .refl _⟩
      · split
        · -- OperatorMap
          have hcut := (cut_sublist part full hmem).trans hfull
          cases hom : lookup part T.opMapDefs with
          | none => exact hlk
          | some om =>
            cases om with
            | map om' =>
              dsimp only    -- the `match` on `some (.map om')`
              split
              · simp only [StepProv]
                refine ⟨.opMapDefs, [part], ?_, by simpa using hcut, .step part (.refl _) hom⟩
                have := reach_sub T .opMapDefs [] T.opMapDefs om' part (reach_top T .opMapDefs) hom
                simpa using this
              · exact hlk
            | ty t => exact hlk
            | nil => exact hlk
        · cases rest with
          | nil =>
            cases val with
            | nil => simp [StepProv, ProvAt]
            | ty t => exact hlk
            | map m' => exact hlk
          | cons r rs =>
            cases val with
            | nil => simp [StepProv, ProvAt]
            | ty t => simp [StepProv, ProvAt]
            | map m' =>
              exact traverseLoop_prov T S full kp hfull (r :: rs) m' tb (pre ++ [part])
                (reach_sub T tb pre m m' part hr hl) (.step part hsub hl) (fun x hx => hd x (List.mem_cons_of_mem _ hx))
                (by simpa using hs)

theorem traverseFuel_prov (T : Tables) (S : Bool) (kp : List Str) :
    ∀ (fuel : Nat) (full : List Str) (m : MTable) (tb : Spec.TableId) (pre : List Str),
      Reach T tb pre m → IsSub (tbl T tb) m → (pre ++ full).Sublist kp → ProvAt T kp (traverseFuel T S fuel full m)
  | 0, _, _, _, _, _, _, _ => by simp [traverseFuel, ProvAt]
  | fuel + 1, full, m, tb, pre, hr, hsub, hs => by
    have hfull : full.Sublist kp := (List.sublist_append_right pre full).trans hs
    have := traverseLoop_prov T S full kp hfull full m tb pre hr hsub (fun _ h => h) hs
    simp only [traverseFuel]
    cases hstep : traverseLoop T S full full m with
    | done r => simpa [hstep, StepProv] using this
    | restart p t =>
      simp only [hstep, StepProv] at this
      obtain ⟨tb', pre', hr', hs', hsub'⟩ := this
      exact traverseFuel_prov T S kp fuel p t tb' pre' hr' hsub' hs'

theorem lastD_sublist (kp : List Str) (h : kp ≠ []) : [lastD kp].Sublist kp := by
  unfold lastD
  have : kp.getLastD [] ∈ kp := by
    cases kp with
    | nil => exact absurd rfl h
    | cons a l => rw [List.getLastD_cons]; exact List.getLastD_mem_cons
  exact List.singleton_sublist.mpr this

/-- **provenance of `getOp`** (audited for C01, tools/registry.py): for a non-empty key path the answer is an entry (or
    a sub-table) of the operator tables at a path that is a subsequence of the key path -/
theorem getOp_prov (T : Tables) (kp : List Str) (S : Bool) (h : kp ≠ []) : ProvAt T kp (getOp T kp S) := by
  unfold getOp
  cases S
  · simp only [Bool.false_eq_true, if_false]
    have hc : ProvAt T kp (lookup (lastD kp) T.core) := provAt_top T .core kp (lastD kp) (lastD_sublist kp h)
    cases hl : lookup (lastD kp) T.core with
    | some m => rw [hl] at hc; exact hc
    | none => exact traverseFuel_prov T false kp _ kp T.agg .agg [] (reach_top T .agg) (.refl _) (by simp)
  · simp only [if_true]
    cases ht : traverse T true kp T.searchAgg with
    | some m =>
      have := traverseFuel_prov T true kp (kp.length + 1) kp T.searchAgg .searchAgg [] (reach_top T .searchAgg) (.refl _) (by simp)
      unfold traverse at ht
      rw [ht] at this
      exact this
    | none =>
      by_cases hu : withinSearchUserDocument kp = true
      · simp only [hu, if_true]; trivial
      · simp only [hu]
        exact provAt_top T .search kp (lastD kp) (lastD_sublist kp h)

/-- outside a search stage, a key that the core table classifies `Exempt` is exempt under every key path -/
theorem getOp_core_exempt (T : Tables) (kp : List Str) (k : Str) (h : lookup k T.core = some (.ty .Exempt)) :
    getOp T (kp ++ [k]) false = some (.ty .Exempt) := by
  simp [getOp, lastD, h]

end Anonymongo
