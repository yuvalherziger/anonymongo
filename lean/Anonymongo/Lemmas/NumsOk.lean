/-
  Lemmas/NumsOk.lean — "number literals contain no control character" (`J.numsOk`, Lemmas/PrintLine.lean: what
  the serialiser needs to stay on one line) is a `TreePred` (Lemmas/TreePred.lean): the parser establishes it
  (the scanner accepts digits, sign, point and exponent only) and the walkers and `RedactMongoLog` keep it.
  It is `J.litsOk` (Lemmas/LitsOk.lean) at one predicate on literals, under a name of its own.
-/
import Anonymongo.Lemmas.PrintLine
import Anonymongo.Lemmas.NumRound
import Anonymongo.Lemmas.ParsePred
import Anonymongo.Lemmas.LineLift
namespace Anonymongo

theorem numsOkList_iff : ∀ xs : List J, numsOkList xs = true ↔ ∀ x ∈ xs, x.numsOk = true
  | [] => by simp [numsOkList]
  | x :: xs => by simp [numsOkList, numsOkList_iff xs]

theorem numsOkKVs_iff : ∀ kvs : List (Str × J), numsOkKVs kvs = true ↔ ∀ p ∈ kvs, p.2.numsOk = true
  | [] => by simp [numsOkKVs]
  | (_, v) :: rest => by simp [numsOkKVs, numsOkKVs_iff rest]

theorem numsOk_treePred : TreePred (fun v => v.numsOk = true) (fun _ => True) where
  arr := fun xs => by simp only [J.numsOk]; exact numsOkList_iff xs
  obj := fun kvs => by simp only [J.numsOk, true_and]; exact numsOkKVs_iff kvs
  null := rfl
  bool := fun _ => rfl
  str := fun _ => rfl
  keysNil := trivial
  keysSet := fun _ _ _ _ => trivial

theorem numsOk_scanned : ScannedNums (fun v => v.numsOk = true) := fun bs lit r hp _ => by
  simp only [J.numsOk, List.all_eq_true, List.mem_map, decide_eq_true_eq]
  rintro c ⟨b, hb, rfl⟩
  have := numByte_range b ((parseNumber_scanned bs lit r hp).2 b hb)
  rw [ofNat_toNat_small _ (by omega)]; exact this.1

theorem parseMembers_numsOk : ∀ (fuel : Nat) (bs : Bytes) (acc kvs : List (Str × J)) (r : Bytes),
    numsOkKVs acc = true → parseMembers fuel bs acc = some (kvs, r) → numsOkKVs kvs = true := fun fuel bs acc kvs r ha h =>
  (parseMembers_sound fuel bs acc kvs r h).pres numsOk_treePred numsOk_scanned ha

theorem parseElems_numsOk : ∀ (fuel : Nat) (bs : Bytes) (xs : List J) (r : Bytes),
    parseElems fuel bs = some (xs, r) → numsOkList xs = true := fun fuel bs xs r h =>
  (numsOkList_iff xs).mpr ((parseElems_sound fuel bs xs r h).pres numsOk_treePred numsOk_scanned)

/-- every line the parser accepts has number literals free of control characters (C03: what `printObj_one_line` asks of a tree) -/
theorem parseObj_numsOk (bs : Bytes) (e : List (Str × J)) (h : parseObj bs = some e) : numsOkKVs e = true :=
  parseObj_pres numsOk_treePred numsOk_scanned bs e h

namespace Ctx

theorem runKVs_numsOk (c : Ctx) (hT : (c.T.number.all fun ch => 0x20 ≤ ch.toNat) = true) (f : Str → J → Str × St) :
    ∀ kvs, numsOkKVs kvs = true → numsOkKVs (c.runKVs f kvs) = true := fun kvs h =>
  (numsOkKVs_iff _).mpr (runKVs_pres numsOk_treePred c hT f kvs ((numsOkKVs_iff kvs).mp h))

theorem runList_numsOk (c : Ctx) (hT : (c.T.number.all fun ch => 0x20 ≤ ch.toNat) = true) :
    ∀ (s : St) (xs : List J), numsOkList xs = true → numsOkList (c.runList s xs) = true := fun s xs h =>
  (numsOkList_iff _).mpr (runList_pres numsOk_treePred c hT s xs ((numsOkList_iff xs).mp h))

end Ctx

theorem redactLine_numsOk (T : Tables) (hT : (T.number.all fun ch => 0x20 ≤ ch.toNat) = true) (cfg : Cfg) (eager : List Str)
    (plan : Str → Str → Str) (entry : List (Str × J)) (h : numsOkKVs entry = true) :
    numsOkKVs (redactLine T cfg eager plan entry) = true :=
  redactLine_pres numsOk_treePred T hT cfg eager plan entry h

end Anonymongo
