/-
  Lemmas/LeafMode.lean — what the walker does with a scalar leaf, as a *mode*:
    keep            the value is emitted verbatim
    hash s          the value is the string `s`, emitted as its pseudonym
    scalar kp S sel the value is handed to `redactScalarValue(kp, ·, S, sel)`
  `run_scalar` proves that this description is exact for every state and scalar (each mode function is a copy of the
  state's scalar function in Model/Walk with modes for outputs).  The mode depends on the value only through its
  JSON type, a leading '$' and (field-name redaction only) whether the string is an operator name.
-/
import Anonymongo.Lemmas.RunInd
namespace Anonymongo
namespace Ctx

inductive Mode where
  | keep
  | hash (s : Str)
  | scalar (kp : List Str) (S sel : Bool)

def applyMode (c : Ctx) (m : Mode) (v : J) : J :=
  match m with
  | .keep => v
  | .hash s => .str (c.H s)
  | .scalar kp S sel => c.scalar kp v S sel

@[simp] theorem applyMode_keep (c : Ctx) (v : J) : c.applyMode .keep v = v := rfl
@[simp] theorem applyMode_hash (c : Ctx) (s : Str) (v : J) : c.applyMode (.hash s) v = .str (c.H s) := rfl
@[simp] theorem applyMode_scalar (c : Ctx) (kp : List Str) (S sel : Bool) (v : J) :
    c.applyMode (.scalar kp S sel) v = c.scalar kp v S sel := rfl

def dollarMode (c : Ctx) (s : Str) : Mode :=
  if c.rfn && (lookup s c.T.core).isNone then .hash s else .keep

def pScalarMode (c : Ctx) (S : Bool) (kp : List Str) : J → Mode
  | .null => .keep
  | .str s => if dollarPrefixed s then c.dollarMode s else .scalar [[]] S (reMatchesAny c.cfg.re kp)
  | _ => .scalar [[]] S (reMatchesAny c.cfg.re kp)

def genericMode (c : Ctx) (S : Bool) (nkp : List Str) : J → Mode
  | .str s => if dollarPrefixed s then c.dollarMode s else .scalar nkp S false
  | _ => .scalar nkp S false

def nsMode (c : Ctx) : J → Mode
  | .str s => if c.cfg.ns then .hash s else .keep
  | _ => .keep

def pValScalarMode (c : Ctx) (S : Bool) (kp : List Str) (k : Str) (op : Option Meta) (v : J) : Mode :=
  match op with
  | some (.map m) =>
    if c.cfg.ns && nsStage m then
      match v with
      | .str s => .hash s
      | _ => c.genericMode S (kp ++ [k]) v
    else c.genericMode S (kp ++ [k]) v
  | some (.ty .FieldName) =>
    if c.rfn then
      match v with
      | .str s => if !kp.isEmpty then .keep else if (getOp c.T [s] S).isSome then .keep else .hash s
      | _ => .scalar [k] S false
    else
      match v with
      | .str _ => .keep
      | _ => c.genericMode S (kp ++ [k]) v
  | some (.ty .Namespace) => c.nsMode v
  | some (.ty .Exempt) => .keep
  | _ => c.genericMode S (kp ++ [k]) v

def subValScalarMode (c : Ctx) (S : Bool) (k : Str) (nkp : List Str) (sk : Str) (sm : Option Meta) (v : J) : Mode :=
  match sm with
  | some (.ty .FieldName) =>
    (match v with
     | .str s => if c.rfn then (if (getOp c.T [s] S).isSome then .keep else .hash s) else .keep
     | _ => if c.rfn then .scalar [k] S false else .scalar (nkp ++ [sk]) S false)
  | some (.ty .Namespace) => c.nsMode v
  | some (.ty .Exempt) => .keep
  | some (.ty .Pipeline) =>
    (match v with
     | .str _ => .keep
     | _ => .scalar (nkp ++ [sk]) S false)
  | _ =>
    (match v with
     | .str s => if dollarPrefixed s && c.rfn && (lookup s c.T.core).isNone then .hash s else .scalar (nkp ++ [sk]) S false
     | _ => .scalar (nkp ++ [sk]) S false)

def aElemScalarMode (c : Ctx) (S : Bool) (pk : Str) (sel : Bool) (kp : List Str) : J → Mode
  | .null => .keep
  | .str s => if dollarPrefixed s then c.dollarMode s else .scalar [pk] S (sel || reMatchesAny c.cfg.re kp)
  | _ => .scalar [pk] S (sel || reMatchesAny c.cfg.re kp)

def qValScalarMode (c : Ctx) (S : Bool) (co : Option Meta) (nkp : List Str) : J → Mode
  | .null => .keep
  | .str s => if dollarPrefixed s then c.dollarMode s else if isTy? co .Exempt then .keep else .scalar nkp S false
  | _ => if isTy? co .Exempt then .keep else .scalar nkp S false

def leafMode (c : Ctx) : St → J → Mode
  | .P S kp, v => c.pScalarMode S kp v
  | .PVal S kp k op, v => c.pValScalarMode S kp k op v
  | .Facet, v => c.pScalarMode false [] v
  | .FacetStage, v => c.pScalarMode false [] v
  | .SubVal S k nkp sk sm, v => c.subValScalarMode S k nkp sk sm v
  | .AElem S pk sel kp, v => c.aElemScalarMode S pk sel kp v
  | .QVal S co _ nkp, v => c.qValScalarMode S co nkp v
  | .NsMember, .str s => .hash s
  | _, _ => .keep

/-- with `applyMode · v` pushed through the `if`s, a scalar function of Model/Walk and its mode function are the same
    decision tree -/
theorem applyMode_ite (c : Ctx) (p : Prop) [Decidable p] (m₁ m₂ : Mode) (v : J) :
    c.applyMode (if p then m₁ else m₂) v = if p then c.applyMode m₁ v else c.applyMode m₂ v :=
  apply_ite (c.applyMode · v) p m₁ m₂

theorem dollarString_mode (c : Ctx) (s : Str) : c.dollarString s = c.applyMode (c.dollarMode s) (.str s) := by
  simp only [dollarString, dollarMode, applyMode_ite, applyMode_hash, applyMode_keep]

theorem pScalar_mode (c : Ctx) (S : Bool) (kp : List Str) (v : J) :
    c.pScalar S kp v = c.applyMode (c.pScalarMode S kp v) v := by
  cases v <;> simp only [pScalar, pScalarMode, dollarString_mode, applyMode_ite, applyMode_keep, applyMode_scalar]

theorem genericScalar_mode (c : Ctx) (S : Bool) (nkp : List Str) (v : J) :
    c.genericScalar S nkp v = c.applyMode (c.genericMode S nkp v) v := by
  cases v <;> simp only [genericScalar, genericMode, dollarString_mode, applyMode_ite, applyMode_scalar]

theorem nsMode_apply (c : Ctx) (v : J) :
    (if c.cfg.ns then (match v with | .str s => J.str (c.H s) | _ => v) else v) = c.applyMode (c.nsMode v) v := by
  cases v <;> simp only [nsMode, applyMode_ite, applyMode_hash, applyMode_keep, ite_self]

theorem pValScalar_mode (c : Ctx) (S : Bool) (kp : List Str) (k : Str) (op : Option Meta) (v : J) :
    c.pValScalar S kp k op v = c.applyMode (c.pValScalarMode S kp k op v) v := by
  have hg := genericScalar_mode c S (kp ++ [k]) v
  unfold pValScalar pValScalarMode
  match op with
  | some (.ty t) =>
    cases t with
    | FieldName => rw [hg]; cases v <;> simp only [applyMode_ite, applyMode_keep, applyMode_hash, applyMode_scalar]
    | Namespace => exact nsMode_apply c v
    | Exempt => rfl
    | _ => exact hg
  | some (.map m) => rw [hg]; cases v <;> simp only [applyMode_ite, applyMode_hash]
  | none | some .nil => exact hg

theorem subValScalar_mode (c : Ctx) (S : Bool) (k : Str) (nkp : List Str) (sk : Str) (sm : Option Meta) (v : J) :
    c.subValScalar S k nkp sk sm v = c.applyMode (c.subValScalarMode S k nkp sk sm v) v := by
  -- the generic sub-entry: no meta, `nil`, a sub-table, a type that says nothing about scalars
  have hd : c.subValScalar S k nkp sk none v = c.applyMode (c.subValScalarMode S k nkp sk none v) v := by
    unfold subValScalar subValScalarMode
    cases v <;> simp only [applyMode_ite, applyMode_hash, applyMode_scalar]
  match sm with
  | some (.ty t) =>
    cases t with
    | FieldName =>
      unfold subValScalar subValScalarMode
      cases v <;> simp only [applyMode_ite, applyMode_keep, applyMode_hash, applyMode_scalar]
    | Namespace => exact nsMode_apply c v
    | Exempt => rfl
    | Pipeline => cases v <;> rfl
    | _ => exact hd
  | none | some (.map _) | some .nil => exact hd

theorem aElemScalar_mode (c : Ctx) (S : Bool) (pk : Str) (sel : Bool) (kp : List Str) (v : J) :
    c.aElemScalar S pk sel kp v = c.applyMode (c.aElemScalarMode S pk sel kp v) v := by
  cases v <;> simp only [aElemScalar, aElemScalarMode, dollarString_mode, applyMode_ite, applyMode_keep, applyMode_scalar]

theorem qValScalar_mode (c : Ctx) (S : Bool) (co : Option Meta) (nkp : List Str) (v : J) :
    c.qValScalar S co nkp v = c.applyMode (c.qValScalarMode S co nkp v) v := by
  cases v <;> simp only [qValScalar, qValScalarMode, dollarString_mode, applyMode_ite, applyMode_keep, applyMode_scalar]

/-- audited for C02 (tools/registry.py).  In a walker state `node` emits what the state's scalar function returns
    (`rfl` per kind of scalar), and that function is its mode function applied. -/
theorem run_scalar (c : Ctx) (s : St) (v : J) (hv : v.isScalar = true) :
    c.run s v = c.applyMode (c.leafMode s v) v := by
  cases s with
  | P S kp => refine .trans ?_ (pScalar_mode c S kp v); (cases v with | obj | arr => cases hv | _ => rfl)
  | PVal S kp k op => refine .trans ?_ (pValScalar_mode c S kp k op v); (cases v with | obj | arr => cases hv | _ => rfl)
  | Facet | FacetStage => refine .trans ?_ (pScalar_mode c false [] v); (cases v with | obj | arr => cases hv | _ => rfl)
  | SubVal S k nkp sk sm => refine .trans ?_ (subValScalar_mode c S k nkp sk sm v); (cases v with | obj | arr => cases hv | _ => rfl)
  | AElem S pk sel kp => refine .trans ?_ (aElemScalar_mode c S pk sel kp v); (cases v with | obj | arr => cases hv | _ => rfl)
  | QVal S co k nkp => refine .trans ?_ (qValScalar_mode c S co nkp v); (cases v with | obj | arr => cases hv | _ => rfl)
  | _ => (cases v with | obj | arr => cases hv | _ => rfl)

end Ctx
end Anonymongo
