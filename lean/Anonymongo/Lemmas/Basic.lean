/-
  Lemmas/Basic.lean — the induction principle for JSON trees, `J.induction`.  Imports Lemmas/Assoc on behalf of every file that
  imports this one.
-/
import Anonymongo.Lemmas.Assoc
namespace Anonymongo

/-- induction over JSON trees: a container may use the claim for each of its members (the recursor of the nested
    inductive type, with "every member satisfies `M`" as the motive for the two kinds of member lists) -/
theorem J.induction {M : J → Prop} (scalar : ∀ v, v.isScalar = true → M v)
    (arr : ∀ xs, (∀ x, x ∈ xs → M x) → M (.arr xs)) (obj : ∀ kvs, (∀ k v, (k, v) ∈ kvs → M v) → M (.obj kvs)) : ∀ v, M v :=
  J.rec (motive_1 := M) (motive_2 := fun xs => ∀ x, x ∈ xs → M x) (motive_3 := fun kvs => ∀ k v, (k, v) ∈ kvs → M v)
    (motive_4 := fun p => M p.2)
    (scalar _ rfl) (fun _ => scalar _ rfl) (fun _ => scalar _ rfl) (fun _ => scalar _ rfl) arr obj
    (fun _ h => nomatch h) (fun _ _ hx ht _ h => (List.mem_cons.1 h).elim (· ▸ hx) (ht _))
    (fun _ _ h => nomatch h) (fun _ _ hp ht _ _ h => (List.mem_cons.1 h).elim (fun e => by cases e; exact hp) (ht _ _))
    (fun _ _ h => h)
end Anonymongo
