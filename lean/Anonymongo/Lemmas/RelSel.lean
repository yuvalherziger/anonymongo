/-
  Lemmas/RelSel.lean — the two-tree theorem of Lemmas/Rel.lean WITHOUT the restriction to
  full-redaction mode: also with `--redactFieldsRegexp` (any predicate on names).
  In selective mode the walker's states depend on the values in two places only: `$field` siblings in an
  array (`isRedactableFieldPatternInArray`) and the path arguments of a search operator (`augmentOp`).
  Both are parts of the input that the walker never hands to `redactScalarValue` — so two inputs that are
  related (equal wherever the walker copies, same class wherever it redacts) agree on them, and therefore
  walk through the same states.  The only extra requirement is on the tables: no table holds a key twice.
-/
import Anonymongo.Lemmas.Assoc
import Anonymongo.Lemmas.Rel
import Anonymongo.Lemmas.Prov
namespace Anonymongo

mutual
/-- no table, at any depth, holds a key twice -/
def allNodup : MTable → Bool
  | [] => true
  | (k, m) :: rest => !(keysOf rest).contains k && metaNodup m && allNodup rest
def metaNodup : Meta → Bool
  | .map kvs => allNodup kvs
  | _ => true
end

theorem allNodup_lookup : ∀ (m : MTable) (k : Str) (m' : MTable), allNodup m = true → lookup k m = some (.map m') → allNodup m' = true
  | [], _, _, _, h => by simp [lookup] at h
  | (k0, x) :: rest, k, m', hn, hl => by
    simp only [allNodup, Bool.and_eq_true] at hn
    simp only [lookup] at hl
    by_cases e : k0 = k
    · simp only [e, if_true, Option.some.injEq] at hl
      subst hl; simpa [metaNodup] using hn.1.2
    · simp only [e, if_false] at hl
      exact allNodup_lookup rest k m' hn.2 hl

theorem allNodup_sub (top m : MTable) (h : IsSub top m) (hn : allNodup top = true) : allNodup m = true := by
  induction h with
  | refl => exact hn
  | step k _ hl ih => exact allNodup_lookup _ k _ ih hl

/-- `allNodup` at the top level, as the `nodupKeys` that the lemmas about `lookup` (Lemmas/Assoc) speak of -/
theorem allNodup_keys : ∀ {m : MTable}, allNodup m = true → nodupKeys (keysOf m) = true
  | [], _ => rfl
  | (k, _) :: rest, h => by
    simp only [allNodup, Bool.and_eq_true, Bool.not_eq_true', List.contains_eq_mem, decide_eq_false_iff_not] at h
    exact (nodupKeys_cons k (keysOf rest)).mpr ⟨h.1.1, allNodup_keys h.2⟩

theorem any_congr_of_mem {α} : ∀ (l : List α) (f g : α → Bool), (∀ e ∈ l, f e = g e) → l.any f = l.any g
  | [], _, _, _ => rfl
  | a :: l, f, g, h => by
    simp only [List.any_cons, h a (by simp), any_congr_of_mem l f g (fun e he => h e (by simp [he]))]

/-- `augmentOp` keeps the `FieldName` entries of the table: it turns `Redactable` entries into `Exempt` ones, or does nothing -/
theorem lookup_augmentOp_fieldName (re : Option (Str → Bool)) (m : MTable) (vm : List (Str × J)) (k : Str)
    (h : lookup k m = some (.ty .FieldName)) : lookup k (augmentOp re m vm) = some (.ty .FieldName) := by
  have conv : lookup k (m.map fun x => if x.2.isTy .Redactable = true then (x.1, Meta.ty .Exempt) else (x.1, x.2)) =
      some (.ty .FieldName) := by
    have e : (fun x : Str × Meta => if x.2.isTy .Redactable = true then (x.1, Meta.ty .Exempt) else (x.1, x.2)) =
        fun x => (x.1, if x.2.isTy .Redactable = true then Meta.ty .Exempt else x.2) := by
      funext x; split <;> rfl
    rw [e, lookup_map_snd (fun _ mt => if mt.isTy .Redactable = true then Meta.ty .Exempt else mt), h]; rfl
  unfold augmentOp
  cases re with
  | none => exact h
  | some p => dsimp only; split <;> assumption

/-- contribution of one array element to `isRedactableFieldPatternInArray` (the function under `any` in `Ctx.selArr`) -/
def selElem (p : Str → Bool) : J → Bool
  | .str ('$' :: r) => p r
  | _ => false

theorem Ctx.selArr_eq (c : Ctx) (xs : List J) :
    c.selArr xs = match c.cfg.re with | none => false | some p => xs.any (selElem p) := by
  unfold Ctx.selArr
  cases c.cfg.re <;> rfl

namespace Ctx

def isDollar : J → Bool
  | .str ('$' :: _) => true
  | _ => false

theorem isDollar_str (s : Str) : isDollar (.str s) = dollarPrefixed s := by
  cases s with
  | nil => rfl
  | cons ch r => by_cases e : ch = '$' <;> simp [isDollar, dollarPrefixed, e]

theorem isDollar_isStr {x : J} (h : isDollar x = true) : isStrJ x = true := by
  cases x <;> first | rfl | cases h

theorem selElem_not_dollar (p : Str → Bool) (x : J) (h : isDollar x = false) : selElem p x = false := by
  cases x with
  | str s => cases s with
    | nil => rfl
    | cons ch r => by_cases e : ch = '$' <;> simp_all [isDollar, selElem]
  | _ => rfl

/-- what the leaf relation must guarantee when the walker's states may depend on `$field` siblings and
    on search path arguments -/
structure LeafSimSel (c : Ctx) (R : St → J → J → Prop) : Prop extends LeafSim c R where
  elemDollar : ∀ S pk sel kp a b, a.isScalar = true → R (.AElem S pk sel kp) a b → (isDollar a = true ∨ isDollar b = true) → a = b
  fieldName : ∀ S k nkp sk a b, a.isScalar = true → R (.SubVal S k nkp sk (some (.ty .FieldName))) a b →
    (isStrJ a = true ∨ isStrJ b = true) → a = b

theorem lookup_rel (c : Ctx) (R : St → J → J → Prop) (f : Str → J → Str × St) (k : Str) :
    ∀ (a b : List (Str × J)), RelKVs c R f a b →
      (lookup k a = none ∧ lookup k b = none) ∨ ∃ v v', lookup k a = some v ∧ lookup k b = some v' ∧ RelAt c R (f k v).2 v v'
  | [], b, h => by simp only [RelKVs] at h; subst h; exact Or.inl ⟨rfl, rfl⟩
  | (k0, v0) :: rest, b, h => by
    simp only [RelKVs] at h
    obtain ⟨v', rest', e, h1, hr⟩ := h
    subst e
    by_cases e : k0 = k
    · subst e; exact Or.inr ⟨v0, v', by simp [lookup], by simp [lookup], h1⟩
    · simp only [lookup, e, if_false]; exact lookup_rel c R f k rest rest' hr

/-- every table `getOp` can answer in a search stage is free of duplicate keys -/
def SearchTablesNodup (T : Tables) : Prop := ∀ kp m, kp ≠ [] → getOp T kp true = some (.map m) → allNodup m = true

section
variable (c : Ctx) (R : St → J → J → Prop) (hs : LeafSimSel c R)
include hs

/-- the two extra requirements of `LeafSimSel`, at trees: where strings satisfying `P` must be equal to be related, two
    related trees are equal or neither satisfies `P` -/
theorem eq_or_neither (P : J → Bool) (hP : ∀ x, P x = true → isStrJ x = true) {s : St}
    (hR : ∀ a b, a.isScalar = true → R s a b → (P a = true ∨ P b = true) → a = b)
    {x y : J} (h : RelAt c R s x y) : x = y ∨ (P x = false ∧ P y = false) := by
  by_cases hd : P x = true ∨ P y = true
  · -- a string on either side is a string on both (same JSON type), hence a scalar leaf, where `hR` applies
    have hx : isStrJ x = true :=
      hd.elim (hP x) fun hy => (isStrJ_of_kind x y (relAt_kind c R hs.toLeafSim s x y h)).trans (hP y hy)
    exact .inl (hR x y (isStrJ_scalar hx) (relAt_scalar (isStrJ_scalar hx) h) hd)
  · exact .inr ⟨by simpa using fun h => hd (.inl h), by simpa using fun h => hd (.inr h)⟩

theorem selArr_rel (S : Bool) (pk : Str) (sel : Bool) (kp : List Str) :
    ∀ (xs ys : List J), RelList c R (.AElem S pk sel kp) xs ys → c.selArr xs = c.selArr ys := by
  intro xs ys h
  rw [selArr_eq, selArr_eq]
  cases c.cfg.re with
  | none => rfl
  | some p =>
    dsimp only
    induction xs generalizing ys with
    | nil => simp only [RelList] at h; subst h; rfl
    | cons x xs ih =>
      simp only [RelList] at h
      obtain ⟨y, ys', rfl, h1, hr⟩ := h
      simp only [List.any_cons, ih ys' hr]
      rcases eq_or_neither c R hs isDollar (fun _ => isDollar_isStr) (hs.elemDollar S pk sel kp) h1 with rfl | ⟨hx, hy⟩
      · rfl
      · rw [selElem_not_dollar p x hx, selElem_not_dollar p y hy]

/-- the "convert" test of `augmentOp` sees only the strings under `FieldName`-typed keys -/
theorem augmentOp_rel (k0 : Str) (nkp : List Str) (m : MTable)
    (hn : allNodup m = true) (vm vm' : List (Str × J))
    (h : RelKVs c R (fun sk _ => (c.subKey (lookup sk (augmentOp c.cfg.re m vm)) sk,
        St.SubVal true k0 nkp sk (lookup sk (augmentOp c.cfg.re m vm)))) vm vm') :
    augmentOp c.cfg.re m vm' = augmentOp c.cfg.re m vm := by
  cases hre : c.cfg.re with
  | none => rfl
  | some p =>
    have key : ∀ e ∈ m, nameMismatch p vm' e = nameMismatch p vm e := by
      intro ⟨k, mt⟩ he
      unfold nameMismatch
      cases hft : mt.isTy .FieldName
      · rfl
      · -- the entry is found under its key (no key twice), also in the augmented table that `h` speaks of
        cases Meta.isTy_eq hft
        have hl := lookup_augmentOp_fieldName c.cfg.re m vm k (lookup_of_mem (allNodup_keys hn) he)
        rcases lookup_rel c R _ k vm vm' h with ⟨h1, h2⟩ | ⟨v, v', h1, h2, h3⟩
        · rw [h1, h2]
        · rw [h1, h2]
          rw [hl] at h3
          rcases eq_or_neither c R hs isStrJ (fun _ => id) (hs.fieldName true k0 nkp k) h3 with rfl | ⟨hv, hv'⟩
          · rfl
          · -- on a value that is not a string the test fails
            cases v <;> first | cases hv | skip
            all_goals cases v' <;> first | rfl | cases hv'
    unfold augmentOp
    dsimp only
    rw [any_congr_of_mem m (nameMismatch p vm') (nameMismatch p vm) key]

theorem augment_rel (hT : SearchTablesNodup c.T)
    (S : Bool) (kp : List Str) (k : Str) (v v' : J)
    (h : RelAt c R (.PVal S kp k (c.augment S (getOp c.T (kp ++ [k]) S) v)) v v') :
    c.augment S (getOp c.T (kp ++ [k]) S) v' = c.augment S (getOp c.T (kp ++ [k]) S) v := by
  -- `augment` looks at the value only in a search stage, under an operator with a table, and when it is an object
  have hk := relAt_kind c R hs.toLeafSim _ v v' h
  cases S with
  | false => rfl
  | true =>
    cases hop : getOp c.T (kp ++ [k]) true with
    | none => rfl
    | some op =>
      cases op with
      | ty t => rfl
      | nil => rfl
      | map m =>
        cases v with
        | obj vm =>
          -- the walker descends into `vm` with the augmented table, so `v'` is an object related member by member
          rw [hop] at h
          have hf : c.node (.PVal true kp k (c.augment true (some (.map m)) (.obj vm))) (.obj vm) = .obj _ := rfl
          simp only [RelAt, hf] at h
          obtain ⟨vm', rfl, hr⟩ := h
          simp only [augment]
          rw [augmentOp_rel c R hs k (kp ++ [k]) m (hT _ m (by simp) hop) vm vm' hr]
        | _ => cases v' <;> first | rfl | cases hk

theorem child_fn_rel (hT : SearchTablesNodup c.T)
    (s : St) (kvs : List (Str × J)) (f : Str → J → Str × St) (hn : c.node s (.obj kvs) = .obj f) :
    ∀ k v v', RelAt c R (f k v).2 v v' → f k v' = f k v := by
  intro k v v' h
  -- only the stage walker's child map looks at the value (`augment`)
  cases node_obj_inv c hn with
  | p S kp => simp only [pObj] at h ⊢; rw [augment_rel c R hs hT _ _ k v v' h]
  | _ => rfl

theorem nodeSim_sel (hT : SearchTablesNodup c.T) : NodeSim c R where
  child := child_fn_rel c R hs hT
  sel := selArr_rel c R hs

end

/-- C02 in every mode, selective mode included (Props/C02b) -/
theorem run_rel_sel (c : Ctx) (R : St → J → J → Prop) (hs : LeafSimSel c R) (hT : SearchTablesNodup c.T) :
    ∀ (s : St) (a b : J), RelAt c R s a b → c.run s a = c.run s b ∧ kindOf a = kindOf b :=
  fun s a b h => ⟨run_sim c R hs.toLeafSim (nodeSim_sel c R hs hT) s a b h, relAt_kind c R hs.toLeafSim s a b h⟩

theorem runKVs_rel_sel (c : Ctx) (R : St → J → J → Prop) (hs : LeafSimSel c R) (hT : SearchTablesNodup c.T)
    (f : Str → J → Str × St) (hchild : ∀ k v v', RelAt c R (f k v).2 v v' → f k v' = f k v) :
    ∀ kvs kvs', RelKVs c R f kvs kvs' → c.runKVs f kvs = c.runKVs f kvs' :=
  runKVs_sim c R hs.toLeafSim (nodeSim_sel c R hs hT) f hchild

theorem runList_rel_sel (c : Ctx) (R : St → J → J → Prop) (hs : LeafSimSel c R) (hT : SearchTablesNodup c.T) :
    ∀ (s : St) (xs ys : List J), RelList c R s xs ys →
      c.runList s xs = c.runList s ys ∧ allStrings xs = allStrings ys :=
  fun s xs ys h => ⟨runList_sim c R hs.toLeafSim (nodeSim_sel c R hs hT) s xs ys h, RelList_allStrings c R hs.toLeafSim s xs ys h⟩

end Ctx

theorem searchTablesNodup_of_tables (T : Tables)
    (h : ∀ tb : Spec.TableId, allNodup (tbl T tb) = true) : Ctx.SearchTablesNodup T := by
  intro kp m hne hg
  have hp := getOp_prov T kp true hne
  rw [hg] at hp
  obtain ⟨tb, _, _, _, hsub⟩ := hp
  exact allNodup_sub _ m hsub (h tb)

end Anonymongo
