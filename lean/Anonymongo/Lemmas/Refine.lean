/-
  Lemmas/Refine.lean — the automaton of Model/Auto.lean computes exactly the transliterated walkers of
  Model/Walk.lean (by mutual structural induction), and its zone states the command rewriting of Model/Line.lean,
  hence `redactLine_refine : redactLineA = redactLine`, through which the line-level theorems reach `run`.
  Once state, operator meta and the kind of the value are constructors, `run` and the walker unfold (`rfl`) to the
  same constructor around the walked members, so every case is the refinement of the member list under that
  constructor (`congrArg`); only the two `if`s of `node` need a lemma (`run_arr_ite`, `run_obj_ite`).
-/
import Anonymongo.Lemmas.RunInd
namespace Anonymongo

theorem cons_congr {α} {x y : α} {l l' : List α} (h1 : x = y) (h2 : l = l') : x :: l = y :: l' := by
  rw [h1, h2]

abbrev objOf (l : List (Str × J)) : J := .obj (fromPairs l)

namespace Ctx

theorem reMatchesAny_nil (re : Option (Str → Bool)) : reMatchesAny re [] = false := by
  cases re <;> simp [reMatchesAny]

theorem run_arr_ite (c : Ctx) {s : St} {xs ys : List J} {b : Bool} {s' : St}
    (h : c.node s (.arr xs) = if b then .keep else .arr s') (hl : c.runList s' xs = ys) :
    c.run s (.arr xs) = if b then .arr xs else .arr ys := by
  subst hl
  cases b
  · exact run_of_arr c h
  · exact run_of_keep c h

theorem run_obj_ite (c : Ctx) {s : St} {kvs l : List (Str × J)} {b : Bool} {f : Str → J → Str × St}
    (h : c.node s (.obj kvs) = if b then .obj f else .keep) (hl : c.runKVs f kvs = l) :
    c.run s (.obj kvs) = if b then .obj (fromPairs l) else .obj kvs := by
  subst hl
  cases b
  · exact run_of_keep c h
  · exact run_of_obj c h

mutual

theorem P_refine (c : Ctx) (S : Bool) (kp : List Str) : ∀ v, c.run (.P S kp) v = c.P S kp v
  | .obj kvs => congrArg objOf (PEntries_refine c S kp kvs)
  | .arr xs => congrArg J.arr (A_refine c S [] (c.selArr xs) kp xs)
  | .null | .str _ | .num _ | .bool _ => rfl

theorem PEntries_refine (c : Ctx) (S : Bool) (kp : List Str) :
    ∀ kvs, c.runKVs (c.pObj S kp) kvs = c.PEntries S kp kvs
  | [] => rfl
  | (k, v) :: rest => cons_congr (congrArg (Prod.mk _) (PVal_refine c S kp k _ v)) (PEntries_refine c S kp rest)

theorem PVal_refine (c : Ctx) (S : Bool) (kp : List Str) (k : Str) (op : Option Meta) :
    ∀ v, c.run (.PVal S kp k op) v = c.PVal S kp k op v
  | .obj kvs => by
    have hp := congrArg objOf (PEntries_refine c S (kp ++ [k]) kvs)
    match op with
    | some (.ty t) =>
      cases t with
      | Namespace | Exempt => rfl
      | Pipeline => exact congrArg objOf (FacetEntries_refine c kvs)
      | _ => exact hp
    | some (.map m) => exact congrArg objOf (SubEntries_refine c S k (kp ++ [k]) m kvs)
    | none | some .nil => exact hp
  | .arr xs => by
    have ha := A_refine c S [] (c.selArr xs) (kp ++ [k]) xs
    match op with
    | some (.ty t) =>
      cases t with
      | Namespace | Exempt => rfl
      | FieldName => exact run_arr_ite c rfl ha
      | OperatorArray => exact congrArg J.arr (PList_refine c S (kp ++ [k]) xs)
      | _ => exact congrArg J.arr ha
    | none | some (.map _) | some .nil => exact congrArg J.arr ha
  | .null | .str _ | .num _ | .bool _ => rfl

theorem PList_refine (c : Ctx) (S : Bool) (nkp : List Str) :
    ∀ xs, c.runList (.P S nkp) xs = c.PList S nkp xs
  | [] => rfl
  | x :: xs => cons_congr (P_refine c S nkp x) (PList_refine c S nkp xs)

theorem FacetEntries_refine (c : Ctx) :
    ∀ kvs, c.runKVs (fun k' _ => (k', St.Facet)) kvs = c.FacetEntries kvs
  | [] => rfl
  | (_, v) :: rest => cons_congr (congrArg (Prod.mk _) (FacetVal_refine c v)) (FacetEntries_refine c rest)

theorem FacetVal_refine (c : Ctx) : ∀ v, c.run .Facet v = c.FacetVal v
  | .obj kvs => congrArg objOf (PEntries_refine c _ [] kvs)
  | .arr xs => congrArg J.arr (FacetStages_refine c xs)
  | .null | .str _ | .num _ | .bool _ => rfl

theorem FacetStages_refine (c : Ctx) : ∀ xs, c.runList .FacetStage xs = c.FacetStages xs
  | [] => rfl
  | x :: xs => cons_congr (FacetStage_refine c x) (FacetStages_refine c xs)

theorem FacetStage_refine (c : Ctx) : ∀ v, c.run .FacetStage v = c.P (isInSearchStage c.T v) [] v
  | .obj kvs => congrArg objOf (PEntries_refine c _ [] kvs)
  | .arr xs => congrArg J.arr (A_refine c false [] (c.selArr xs) [] xs)
  | .null | .str _ | .num _ | .bool _ => rfl

theorem SubEntries_refine (c : Ctx) (S : Bool) (k : Str) (nkp : List Str) (m : MTable) :
    ∀ kvs, c.runKVs (fun sk _ => (c.subKey (lookup sk m) sk, St.SubVal S k nkp sk (lookup sk m))) kvs
      = c.SubEntries S k nkp m kvs
  | [] => rfl
  | (sk, sv) :: rest =>
    cons_congr (congrArg (Prod.mk _) (SubVal_refine c S k nkp sk _ sv)) (SubEntries_refine c S k nkp m rest)

theorem SubVal_refine (c : Ctx) (S : Bool) (k : Str) (nkp : List Str) (sk : Str) (sm : Option Meta) :
    ∀ v, c.run (.SubVal S k nkp sk sm) v = c.SubVal S k nkp sk sm v
  | .obj kvs => by
    have hp := congrArg objOf (PEntries_refine c S (nkp ++ [sk]) kvs)
    match sm with
    | some (.ty t) =>
      cases t with
      | Namespace => exact run_obj_ite c rfl (NsDoc_refine c kvs)
      | Exempt => rfl
      | _ => exact hp
    | none | some (.map _) | some .nil => exact hp
  | .arr xs => by
    have ha := A_refine c S [] (c.selArr xs) (nkp ++ [sk]) xs
    match sm with
    | some (.ty t) =>
      cases t with
      | Namespace | Exempt => rfl
      | FieldName => exact run_arr_ite c rfl ha
      | OperatorArray => exact congrArg J.arr (PList_refine c S nkp xs)
      | Pipeline => exact congrArg J.arr (FacetStages_refine c xs)
      | _ => exact congrArg J.arr ha
    | none | some (.map _) | some .nil => exact congrArg J.arr ha
  | .null | .str _ | .num _ | .bool _ => rfl

theorem NsDoc_refine (c : Ctx) : ∀ kvs, c.runKVs (fun k' _ => (k', St.NsMember)) kvs = c.nsDoc kvs
  | [] => rfl
  | (k, v) :: rest => by
    cases v <;> exact congrArg (List.cons _) (NsDoc_refine c rest)

theorem A_refine (c : Ctx) (S : Bool) (pk : Str) (sel : Bool) (kp : List Str) :
    ∀ xs, c.runList (.AElem S pk sel kp) xs = c.A S pk sel kp xs
  | [] => rfl
  | x :: xs => cons_congr (AElem_refine c S pk sel kp x) (A_refine c S pk sel kp xs)

theorem AElem_refine (c : Ctx) (S : Bool) (pk : Str) (sel : Bool) (kp : List Str) :
    ∀ v, c.run (.AElem S pk sel kp) v = c.AElem S pk sel kp v
  | .obj kvs => congrArg objOf (Q_refine c S none kp kvs)
  | .arr ys => congrArg J.arr (A_refine c S pk sel kp ys)
  | .null | .str _ | .num _ | .bool _ => rfl

theorem Q_refine (c : Ctx) (S : Bool) (pc : Option Meta) (kp : List Str) :
    ∀ kvs, c.runKVs (c.qObj S pc kp) kvs = c.Q S pc kp kvs
  | [] => rfl
  | (k, v) :: rest => cons_congr (congrArg (Prod.mk _) (QVal_refine c S _ k (kp ++ [k]) v)) (Q_refine c S pc kp rest)

theorem QVal_refine (c : Ctx) (S : Bool) (co : Option Meta) (k : Str) (nkp : List Str) :
    ∀ v, c.run (.QVal S co k nkp) v = c.QVal S co k nkp v
  | .obj kvs => congrArg objOf (Q_refine c S _ nkp kvs)
  | .arr xs => congrArg J.arr (A_refine c S k (c.selArr xs) nkp xs)
  | .null | .str _ | .num _ | .bool _ => rfl

end

theorem run_ZQ (c : Ctx) : ∀ v, c.run .ZQ v = match v with | .obj kvs => objOf (c.Q false none [] kvs) | _ => v
  | .obj kvs => congrArg objOf (Q_refine c false none [] kvs)
  | .arr _ | .null | .str _ | .num _ | .bool _ => rfl

theorem run_ZU (c : Ctx) : ∀ v, c.run .ZU v =
    match v with | .obj kvs => objOf (c.Q false none [] kvs) | .arr xs => .arr (c.A false [] false [] xs) | _ => v
  | .obj kvs => congrArg objOf (Q_refine c false none [] kvs)
  | .arr xs => congrArg J.arr (A_refine c false [] false [] xs)
  | .null | .str _ | .num _ | .bool _ => rfl

theorem run_ZA (c : Ctx) : ∀ v, c.run .ZA v = match v with | .arr xs => .arr (c.A false [] false [] xs) | _ => v
  | .arr xs => congrArg J.arr (A_refine c false [] false [] xs)
  | .obj _ | .null | .str _ | .num _ | .bool _ => rfl

theorem run_ZP (c : Ctx) : ∀ v, c.run .ZP v = match v with | .arr xs => .arr (c.FacetStages xs) | _ => v
  | .arr xs => congrArg J.arr (FacetStages_refine c xs)
  | .obj _ | .null | .str _ | .num _ | .bool _ => rfl

theorem run_Keep (c : Ctx) (v : J) : c.run .Keep v = v := run_of_keep c rfl

/-- `opZone` and `cmdVal` make the same tests in the same order (taken one at a time, as in `opZone_ind`) -/
theorem opZone_refine (c : Ctx) (hasInsert : Bool) (k : Str) (v : J) :
    c.run (opZone hasInsert k) v = c.cmdVal hasInsert k v := by
  unfold opZone cmdVal
  by_cases h1 : qKeysObj.contains k = true; · rw [if_pos h1, if_pos h1]; exact run_ZQ c v
  rw [if_neg h1, if_neg h1]
  by_cases h2 : uKeysObjOrArr.contains k = true; · rw [if_pos h2, if_pos h2]; exact run_ZU c v
  rw [if_neg h2, if_neg h2]
  by_cases h3 : aKeysArr.contains k = true; · rw [if_pos h3, if_pos h3]; exact run_ZA c v
  rw [if_neg h3, if_neg h3]
  by_cases h4 : k = sDocuments
  · -- `documents` is a zone on an insert only
    rw [if_pos h4, if_pos h4]
    cases hasInsert
    · exact (run_Keep c v).trans (by cases v <;> rfl)
    · exact (run_ZA c v).trans (by cases v <;> rfl)
  rw [if_neg h4, if_neg h4]
  by_cases h5 : k = sDocument
  · rw [if_pos h5, if_pos h5]
    cases hasInsert
    · exact (run_Keep c v).trans (by cases v <;> rfl)
    · exact (run_ZQ c v).trans (by cases v <;> rfl)
  rw [if_neg h5, if_neg h5]
  by_cases h6 : k = sPipeline; · rw [if_pos h6, if_pos h6]; exact run_ZP c v
  rw [if_neg h6, if_neg h6]; exact run_Keep c v

theorem runKVs_opZone (c : Ctx) (hi : Bool) : ∀ (kvs : List (Str × J)),
    c.runKVs (fun k _ => (k, opZone hi k)) kvs = kvs.map fun p => (p.1, c.cmdVal hi p.1 p.2)
  | [] => rfl
  | (k, v) :: rest => cons_congr (congrArg (Prod.mk k) (opZone_refine c hi k v)) (runKVs_opZone c hi rest)

theorem opDoc_refine (c : Ctx) : ∀ v, c.run .ZOp v = c.opDoc v
  | .obj kvs => congrArg objOf (runKVs_opZone c _ kvs)
  | .arr _ | .null | .str _ | .num _ | .bool _ => rfl

theorem runList_ZOp (c : Ctx) : ∀ xs : List J, c.runList .ZOp xs = xs.map c.opDoc
  | [] => rfl
  | x :: xs => cons_congr (opDoc_refine c x) (runList_ZOp c xs)

theorem zone_refine (c : Ctx) (hasInsert hasBulk : Bool) (k : Str) (v : J) :
    c.run (zoneState hasInsert hasBulk k) v = c.cmdEntry hasInsert hasBulk k v := by
  unfold zoneState cmdEntry
  by_cases h1 : k = sExplain; · rw [if_pos h1, if_pos h1]; exact opDoc_refine c v
  rw [if_neg h1, if_neg h1]
  by_cases h2 : (k = sOps && hasBulk) = true
  · rw [if_pos h2, if_pos h2]
    cases v with
    | arr xs => exact congrArg J.arr (runList_ZOp c xs)
    | _ => rfl
  · rw [if_neg h2, if_neg h2]; exact opZone_refine c hasInsert k v

theorem redactCommand_refine (c : Ctx) (cmd : List (Str × J)) : c.redactCommandA cmd = c.redactCommand cmd := by
  simp [redactCommandA, redactCommand, zone_refine]

theorem cmdDoc_refine (c : Ctx) (v : J) : c.cmdDocA v = c.cmdDoc v := by
  cases v <;> simp [cmdDocA, cmdDoc, redactCommand_refine]

end Ctx

/-- the automaton model and the transliterated model of `RedactMongoLog` are the same function -/
theorem redactLine_refine : redactLineA = redactLine :=
  congrArg redactLineWith (funext fun c => funext c.cmdDoc_refine)

theorem redactAttr_refine : redactAttrA = redactAttr :=
  congrArg redactAttrWith (funext fun c => funext c.cmdDoc_refine)

end Anonymongo
