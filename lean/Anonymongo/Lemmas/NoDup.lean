/-
  Lemmas/NoDup.lean — "no object has two members with the same key" is a `TreePred`, so the walkers and
  `RedactMongoLog` keep it under every flag set: also with field-name redaction, because every rebuilt object goes
  through `Set`, where colliding pseudonyms merge instead of duplicating a key.
-/
import Anonymongo.Lemmas.LineLift
import Anonymongo.Lemmas.TreePred
import Anonymongo.Spec.Shape
namespace Anonymongo

theorem nodupList_iff : ∀ xs : List J, nodupList xs = true ↔ ∀ x ∈ xs, x.nodup = true
  | [] => by simp [nodupList]
  | x :: xs => by simp [nodupList, nodupList_iff xs]

theorem nodupKVs_iff : ∀ kvs : List (Str × J), nodupKVs kvs = true ↔ ∀ p ∈ kvs, p.2.nodup = true
  | [] => by simp [nodupKVs]
  | (_, v) :: rest => by simp [nodupKVs, nodupKVs_iff rest]

theorem J.nodup_keys (m : List (Str × J)) (h : (J.obj m).nodup = true) : nodupKeys (keysOf m) = true := by
  rw [J.nodup, Bool.and_eq_true] at h; exact h.1

theorem J.nodup_of_mem (cmd : List (Str × J)) (h : (J.obj cmd).nodup = true) (p : Str × J) (hp : p ∈ cmd) : p.2.nodup = true := by
  rw [J.nodup, Bool.and_eq_true] at h
  exact (nodupKVs_iff cmd).mp h.2 p hp

theorem J.nodup_of_lookup (cmd : List (Str × J)) (h : (J.obj cmd).nodup = true) (k : Str) (v : J) (hl : lookup k cmd = some v) : v.nodup = true :=
  J.nodup_of_mem cmd h (k, v) (mem_of_lookup hl)

theorem nodup_treePred : TreePred (fun v => v.nodup = true) (fun ks => nodupKeys ks = true) where
  arr := fun xs => by simp only [J.nodup]; exact nodupList_iff xs
  obj := fun kvs => by simp only [J.nodup, Bool.and_eq_true, nodupKVs_iff]
  null := rfl
  bool := fun _ => rfl
  str := fun _ => rfl
  keysNil := rfl
  keysSet := fun k v l h => setKV_nodupKeys k v l h

namespace Ctx

theorem run_nodup (c : Ctx) : ∀ (s : St) (v : J), v.nodup = true → (c.run s v).nodup = true :=
  run_pres nodup_treePred c rfl

theorem runKVs_nodup (c : Ctx) (f : Str → J → Str × St) :
    ∀ kvs, nodupKVs kvs = true → nodupKVs (c.runKVs f kvs) = true := fun kvs h =>
  (nodupKVs_iff _).mpr (runKVs_pres nodup_treePred c rfl f kvs ((nodupKVs_iff kvs).mp h))

theorem runList_nodup (c : Ctx) :
    ∀ (s : St) (xs : List J), nodupList xs = true → nodupList (c.runList s xs) = true := fun s xs h =>
  (nodupList_iff _).mpr (runList_pres nodup_treePred c rfl s xs ((nodupList_iff xs).mp h))

end Ctx

theorem redactCommand_nodup (c : Ctx) (cmd : List (Str × J)) (h : (J.obj cmd).nodup = true) : (J.obj (c.redactCommand cmd)).nodup = true := by
  rw [← Ctx.redactCommand_refine]
  rw [c.redactCommandA_eq_mapVals]; exact nodup_treePred.mapVals _ (fun k v hv => Ctx.run_nodup c _ v hv) cmd h

/-- `RedactMongoLog`, any flags: a line without duplicate sibling keys stays one (C03: no member of the output
    is lost when it is parsed again) -/
theorem redactLine_nodup (T : Tables) (cfg : Cfg) (eager : List Str)
    (plan : Str → Str → Str) (entry : List (Str × J)) (h : (J.obj entry).nodup = true) :
    (J.obj (redactLine T cfg eager plan entry)).nodup = true :=
  redactLine_pres nodup_treePred T rfl cfg eager plan entry h

end Anonymongo
