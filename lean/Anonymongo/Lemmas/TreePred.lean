/-
  Lemmas/TreePred.lean — predicates on trees that hold of a container iff of its members (`TreePred`: number
  literals well formed, no duplicate sibling keys, printable) are kept by rebuilding with `Set`, by key-wise maps and
  by the walkers (`Ctx.run_pres`, given that the number placeholder satisfies them), hence by `RedactMongoLog`
  (`redactLine_pres`, Lemmas/LineLift.lean).
-/
import Anonymongo.Lemmas.LeafMode
import Anonymongo.Lemmas.ScalarClass
import Anonymongo.Lemmas.RunInd
import Anonymongo.Lemmas.LineAlg
import Anonymongo.Lemmas.Assoc
namespace Anonymongo

/-- `Q` holds of a container iff it holds of its members (and, for an object, `KP` of the list of keys);
    it holds of strings, booleans and null; `KP` survives `Set`.  Number literals are left to `Q`. -/
structure TreePred (Q : J → Prop) (KP : List Str → Prop) : Prop where
  arr : ∀ xs, Q (.arr xs) ↔ ∀ x ∈ xs, Q x
  obj : ∀ kvs, Q (.obj kvs) ↔ KP (keysOf kvs) ∧ ∀ p ∈ kvs, Q p.2
  null : Q .null
  bool : ∀ b, Q (.bool b)
  str : ∀ s, Q (.str s)
  keysNil : KP []
  keysSet : ∀ (k : Str) (v : J) (l : List (Str × J)), KP (keysOf l) → KP (keysOf (setKV k v l))

namespace TreePred
variable {Q : J → Prop} {KP : List Str → Prop} (tp : TreePred Q KP)
include tp

theorem setKV (k : Str) (v : J) (hv : Q v) (l : List (Str × J)) (h : Q (.obj l)) : Q (.obj (setKV k v l)) := by
  rw [tp.obj] at h ⊢
  exact ⟨tp.keysSet k v l h.1, fun p hp => (mem_setKV k v l p hp).elim (fun e => e ▸ hv) (h.2 p)⟩

theorem fromPairs (ps : List (Str × J)) (h : ∀ p ∈ ps, Q p.2) : Q (.obj (fromPairs ps)) := by
  have : ∀ (ps acc : List (Str × J)), (∀ p ∈ ps, Q p.2) → Q (.obj acc) →
      Q (.obj (ps.foldl (fun acc p => Anonymongo.setKV p.1 p.2 acc) acc)) := by
    intro ps
    induction ps with
    | nil => exact fun _ _ ha => ha
    | cons p t ih =>
      exact fun acc hl ha => ih _ (fun q hq => hl q (.tail _ hq)) (tp.setKV p.1 p.2 (hl p (.head _)) acc ha)
  exact this ps [] h ((tp.obj []).mpr ⟨tp.keysNil, fun _ hp => nomatch hp⟩)

theorem mapVals (h : Str → J → J) (hh : ∀ k v, Q v → Q (h k v)) (l : List (Str × J)) (hl : Q (.obj l)) :
    Q (.obj (mapVals h l)) := by
  rw [tp.obj] at hl ⊢
  refine ⟨by rw [keysOf_mapVals]; exact hl.1, fun p hp => ?_⟩
  obtain ⟨q, hq, rfl⟩ := List.mem_map.mp hp
  exact hh q.1 q.2 (hl.2 q hq)

theorem map (f : J → J) (hf : ∀ x, Q x → Q (f x)) (xs : List J) (h : Q (.arr xs)) : Q (.arr (xs.map f)) := by
  rw [tp.arr] at h ⊢
  intro y hy
  obtain ⟨x, hx, rfl⟩ := List.mem_map.mp hy
  exact hf x (h x hx)

theorem scalarOut {T : Tables} (hnum : Q (.num T.number)) {a out : J} (h : ScalarOut T a out) (ha : Q a) : Q out := by
  cases h with
  | same => exact ha
  | str => exact tp.str _
  | num => exact hnum
  | bool => exact tp.bool _

omit tp in
theorem of_and {Q₁ Q₂ : J → Prop} {K₁ K₂ : List Str → Prop} (a : TreePred Q₁ K₁) (b : TreePred Q₂ K₂)
    (h : ∀ v, Q v ↔ Q₁ v ∧ Q₂ v) : TreePred Q (fun ks => K₁ ks ∧ K₂ ks) where
  arr xs := by simp only [h, a.arr, b.arr, ← forall_and]
  obj kvs := by simp only [h, a.obj, b.obj, ← forall_and, and_and_and_comm]
  null := (h _).mpr ⟨a.null, b.null⟩
  bool x := (h _).mpr ⟨a.bool x, b.bool x⟩
  str s := (h _).mpr ⟨a.str s, b.str s⟩
  keysNil := ⟨a.keysNil, b.keysNil⟩
  keysSet k v l hl := ⟨a.keysSet k v l hl.1, b.keysSet k v l hl.2⟩

end TreePred

namespace Ctx
variable {Q : J → Prop} {KP : List Str → Prop}

theorem applyMode_pres (tp : TreePred Q KP) (c : Ctx) (hnum : Q (.num c.T.number)) (m : Mode) (v : J)
    (hv : v.isScalar = true) (h : Q v) : Q (c.applyMode m v) := by
  cases m with
  | keep => exact h
  | hash s => exact tp.str _
  | scalar kp S sel => exact tp.scalarOut hnum (redactScalar_out c.T c.cfg kp S sel v hv) h

theorem run_pres (tp : TreePred Q KP) (c : Ctx) (hnum : Q (.num c.T.number)) (s : St) (v : J) : Q v → Q (c.run s v) := by
  refine run_induction_scalar c (M := fun _ v o => Q v → Q o) ?_ (fun _ _ _ _ h => h) ?_ ?_ s v
  · intro s v hv h
    rw [run_scalar c s v hv]; exact applyMode_pres tp c hnum _ v hv h
  · intro s kvs f _ ih h
    refine tp.fromPairs _ fun p hp => ?_
    obtain ⟨k, v, hm, rfl⟩ := mem_runKVs c f hp
    exact ih k v hm (((tp.obj kvs).mp h).2 _ hm)
  · intro s xs s' _ ih h
    refine (tp.arr _).mpr fun y hy => ?_
    obtain ⟨x, hx, rfl⟩ := mem_runList c s' hy
    exact ih x hx ((tp.arr xs).mp h x hx)

theorem runKVs_pres (tp : TreePred Q KP) (c : Ctx) (hnum : Q (.num c.T.number)) (f : Str → J → Str × St)
    (kvs : List (Str × J)) (h : ∀ p ∈ kvs, Q p.2) : ∀ p ∈ c.runKVs f kvs, Q p.2 := fun p hp => by
  obtain ⟨k, v, hm, rfl⟩ := mem_runKVs c f hp
  exact run_pres tp c hnum _ v (h _ hm)

theorem runList_pres (tp : TreePred Q KP) (c : Ctx) (hnum : Q (.num c.T.number)) (s : St) (xs : List J)
    (h : ∀ x ∈ xs, Q x) : ∀ x ∈ c.runList s xs, Q x := fun y hy => by
  obtain ⟨x, hx, rfl⟩ := mem_runList c s hy
  exact run_pres tp c hnum s x (h x hx)

end Ctx

end Anonymongo
