/-
  Lemmas/ScalarClass.lean — what `redactScalarValue` does, said once and for every setting of `--encrypt`
  (`redactScalar_eq`): it hands the value back for reasons of the key path alone (`keptByPath`), or emits what the
  value's lexical class (`classOf`) prescribes (`redactAs`).  With `classOf_fits` (which values a class admits)
  this is what the leaf-level theorems rest on; `redactScalar` itself is unfolded here and in the correspondence with
  the source (Props/Src/Scalar) only.
-/
import Anonymongo.Spec.Classes
namespace Anonymongo

theorem redactString_plain (cfg : Cfg) (h : cfg.enc = none) (s ph : Str) : redactString cfg s ph = ph := by
  simp only [redactString, h]

theorem redactString_enc (cfg : Cfg) (f : Str → Option Str) (he : cfg.enc = some f) (s ph : Str) :
    redactString cfg s ph = (match f s with | some c => c | none => ph) := by
  simp only [redactString, he]
  cases f s <;> rfl

/-- what encrypt mode makes of a placeholder: a string standing for a string goes through
    `redactString`; everything else is the placeholder itself -/
def encStr (cfg : Cfg) (v ph : J) : J :=
  match v, ph with
  | .str s, .str p => .str (redactString cfg s p)
  | _, _ => ph

/-- what is emitted for a value of class `cl` that is not handed back.  The test for `subType` is not redundant with
    `placeholderOf … .subType = v`: a STRING `$binary.subType` would otherwise go through `redactString` in `encStr`
    and be encrypted, whereas `redactScalarValue` copies it. -/
def redactAs (T : Tables) (cfg : Cfg) (v : J) (cl : LeafClass) : J :=
  if cl = .subType then v else encStr cfg v (placeholderOf T cfg v cl)

theorem ite_or {α} (a b : Bool) (x y : α) :
    (if (a || b) = true then x else y) = if a = true then x else if b = true then x else y := by
  cases a <;> cases b <;> rfl

variable (T : Tables) (cfg : Cfg) (kp : List Str)

/-- `classOf` runs through the same tests on the last two keys as `redactScalarValue`: with `redactAs`
    pushed through them both sides are the same chain of `if`s, so no test is ever decided -/
theorem redactScalar_eq (v : J) (S sel : Bool) :
    redactScalar T cfg kp v S sel =
      if keptByPath T cfg kp S sel then v else redactAs T cfg v (classOf kp v) := by
  unfold redactScalar keptByPath
  rw [ite_or]
  cases v <;> simp only [classOf, redactByKind, apply_ite (redactAs T cfg _)] <;> rfl

theorem keptByPath_full (hfull : cfg.re = none) (S sel : Bool)
    (hex : isTy? (getOp T kp S) .Exempt = false) : keptByPath T cfg kp S sel = false := by
  simp [keptByPath, hex, hfull]

/-- a value and the classes it can have under a key path; `subType` is decided by the path alone -/
inductive ClassFits (kp : List Str) : J → LeafClass → Prop
  | subType (v) (h : (lastD kp = sSubType && grandParent kp = sBinary) = true) : ClassFits kp v .subType
  | date (s) : ClassFits kp (.str s) .date
  | oid (s) : ClassFits kp (.str s) .oid
  | b64 (s) : ClassFits kp (.str s) .b64
  | email (s) : ClassFits kp (.str s) .email
  | string (s) : ClassFits kp (.str s) .string
  | number (l) : ClassFits kp (.num l) .number
  | bool (b) : ClassFits kp (.bool b) .bool
  | null : ClassFits kp .null .null
  | arr (xs) : ClassFits kp (.arr xs) .container
  | obj (kvs) : ClassFits kp (.obj kvs) .container

theorem classOf_fits : ∀ v, ClassFits kp v (classOf kp v)
  | .str s => iteInduction (fun _ => .date s) fun _ => iteInduction (fun _ => .oid s) fun _ =>
      iteInduction (fun _ => .b64 s) fun _ => iteInduction (.subType _) fun _ =>
      iteInduction (fun _ => .email s) fun _ => .string s
  | .num l => iteInduction (.subType _) fun _ => .number l
  | .bool b => iteInduction (.subType _) fun _ => .bool b
  | .null => iteInduction (.subType _) fun _ => .null
  | .arr xs => iteInduction (.subType _) fun _ => .arr xs
  | .obj kvs => iteInduction (.subType _) fun _ => .obj kvs

variable {kp} {v : J} {cl : LeafClass}

theorem redactAs_plain (h : cfg.enc = none) (hf : ClassFits kp v cl) : redactAs T cfg v cl = placeholderOf T cfg v cl := by
  cases hf with
  | date | oid | b64 | email | string => exact congrArg J.str (redactString_plain cfg h _ _)
  | _ => rfl

/-- C05 at a leaf in placeholder mode: handed back because of the key path, or the placeholder of its own class -/
theorem redactScalar_plain (h : cfg.enc = none) (kp : List Str) (v : J) (S sel : Bool) :
    redactScalar T cfg kp v S sel = if keptByPath T cfg kp S sel then v else placeholderOf T cfg v (classOf kp v) := by
  rw [redactScalar_eq, redactAs_plain T cfg h (classOf_fits kp v)]

theorem redactAs_enc (f : Str → Option Str) (hf : ClassFits kp v cl) :
    redactAs T { cfg with enc := some f } v cl = redactAs T { cfg with enc := none } v cl ∨
      ∃ s ph, v = .str s ∧ redactAs T { cfg with enc := none } v cl = .str ph ∧
        redactAs T { cfg with enc := some f } v cl = .str (match f s with | some c => c | none => ph) := by
  cases hf with
  | date | oid | b64 | email | string =>
    exact .inr ⟨_, _, rfl, rfl, congrArg J.str (redactString_enc { cfg with enc := some f } f rfl _ _)⟩
  | _ => exact .inl rfl

/-- a scalar whose class is not secret is its own placeholder, and why it is not secret -/
theorem classOf_not_secret (kp : List Str) (a : J) (ha : a.isScalar = true)
    (hsec : ¬ secretClass cfg (classOf kp a) = true) :
    placeholderOf T cfg a (classOf kp a) = a ∧
      ((lastD kp = sSubType ∧ grandParent kp = sBinary) ∨ a = .null ∨
        (∃ l, a = .num l ∧ cfg.nums = false) ∨ (∃ b, a = .bool b ∧ cfg.bools = false)) := by
  have fa := classOf_fits kp a
  generalize classOf kp a = cl at fa hsec ⊢
  cases fa with
  | subType v h =>
    simp only [Bool.and_eq_true, decide_eq_true_eq] at h
    exact ⟨rfl, .inl h⟩
  | date | oid | b64 | email | string => exact absurd rfl hsec
  | number l => exact ⟨if_neg hsec, .inr (.inr (.inl ⟨l, rfl, eq_false_of_ne_true hsec⟩))⟩
  | bool b => exact ⟨if_neg hsec, .inr (.inr (.inr ⟨b, rfl, eq_false_of_ne_true hsec⟩))⟩
  | null => exact ⟨rfl, .inr (.inl rfl)⟩
  | arr | obj => exact Bool.noConfusion ha

/-- what `redactScalarValue` can return for the scalar `a`: `a` itself, or a constant of `a`'s own JSON type -/
inductive ScalarOut (T : Tables) : J → J → Prop
  | same (a : J) : ScalarOut T a a
  | str (s t : Str) : ScalarOut T (.str s) (.str t)
  | num (l : Str) : ScalarOut T (.num l) (.num T.number)
  | bool (b : Bool) : ScalarOut T (.bool b) (.bool T.boolean)

theorem redactScalar_out (kp : List Str) (S sel : Bool) (a : J) (ha : a.isScalar = true) :
    ScalarOut T a (redactScalar T cfg kp a S sel) := by
  rw [redactScalar_eq]
  refine iteInduction (fun _ => .same a) fun _ => ?_
  have fa := classOf_fits kp a
  generalize classOf kp a = cl at fa
  cases fa with
  | subType | null => exact .same _
  | date s | oid s | b64 s | email s | string s => exact .str s _
  | number l =>
    show ScalarOut T (.num l) (if cfg.nums = true then .num T.number else .num l)
    exact iteInduction (fun _ => .num l) fun _ => .same _
  | bool b =>
    show ScalarOut T (.bool b) (if cfg.bools = true then .bool T.boolean else .bool b)
    exact iteInduction (fun _ => .bool b) fun _ => .same _
  | arr | obj => exact Bool.noConfusion ha

theorem redactScalar_str (kp : List Str) (s : Str) (S sel : Bool)
    (hk : keptByPath T cfg kp S sel = false)
    (hsub : (lastD kp = sSubType && grandParent kp = sBinary) = false) :
    ∃ p ∈ [T.isoDate, T.objectId, T.uuid, T.emailPH, cfg.repl],
      redactScalar T cfg kp (.str s) S sel = .str (redactString cfg s p) := by
  rw [redactScalar_eq, hk, if_neg Bool.false_ne_true]
  have fa := classOf_fits kp (.str s)
  generalize classOf kp (.str s) = cl at fa
  cases fa with
  | subType _ h => rw [hsub] at h; cases h
  | _ => exact ⟨_, by simp, rfl⟩

theorem placeholderOf_secret_indep (T : Tables) (cfg : Cfg) (a b : J) (cl : LeafClass) (h : secretClass cfg cl = true) :
    placeholderOf T cfg a cl = placeholderOf T cfg b cl := by
  cases cl <;> simp_all [secretClass, placeholderOf]

theorem reMatchesAny_some {re : Option (Str → Bool)} {m : Str → Bool} (hre : re = some m) (kp : List Str) :
    reMatchesAny re kp = kp.any m := by
  subst hre; rfl

theorem keptByPath_re_none (T : Tables) (cfg : Cfg) (kp : List Str) (hfull : cfg.re = none) (S sel : Bool) :
    keptByPath T cfg kp S sel = isTy? (getOp T kp S) .Exempt := by
  simp [keptByPath, hfull]

theorem keptByPath_sel (T : Tables) (cfg : Cfg) (kp : List Str) (S : Bool) :
    keptByPath T cfg kp S true = isTy? (getOp T kp S) .Exempt := by
  simp [keptByPath]

theorem redactScalar_matched (T : Tables) (cfg : Cfg) (kp : List Str) (v : J) (S sel : Bool)
    (h : sel = true ∨ reMatchesAny cfg.re kp = true) :
    redactScalar T cfg kp v S sel = redactScalar T cfg kp v S true := by
  rw [redactScalar_eq, redactScalar_eq]
  unfold keptByPath
  rcases h with h | h <;> simp [h]

theorem redactScalar_unmatched (T : Tables) (cfg : Cfg) (m : Str → Bool) (hre : cfg.re = some m) (kp : List Str) (v : J)
    (h : kp.any m = false) : redactScalar T cfg kp v false false = v := by
  rw [redactScalar_eq, if_pos]
  simp [keptByPath, hre, reMatchesAny_some rfl, h]

theorem redactScalar_ns_indep (T : Tables) (cfg : Cfg) (b1 b2 : Bool) (kp : List Str) (v : J) (S sel : Bool) :
    redactScalar T { cfg with ns := b1 } kp v S sel = redactScalar T { cfg with ns := b2 } kp v S sel := by
  rw [redactScalar_eq, redactScalar_eq]; rfl

theorem grandParent_single (x : Str) : grandParent [x] ≠ sBinary := by
  simp [grandParent, sBinary]

end Anonymongo
