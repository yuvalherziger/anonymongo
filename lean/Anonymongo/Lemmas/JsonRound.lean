/-
  Lemmas/JsonRound.lean — parse ∘ print = id at byte level for every tree the redactor can emit (`J.printable`: no
  duplicate sibling keys, number literals that are valid JSON numbers in ASCII).  `printJ_parses`: the printed text
  of `v`, in front of anything that ends a value, has a derivation (`Parses`) with result `v`, for every fuel from
  `v.size` on; it is built from the constructors by `J.induction`, and `parse_print` reads the call off it
  (`Parses.complete`).  Whole lines: Lemmas/ParseValid.lean.  (C03, C19)
-/
import Anonymongo.Lemmas.Esc
import Anonymongo.Lemmas.NumRound
import Anonymongo.Lemmas.Basic
import Anonymongo.Lemmas.Parses
namespace Anonymongo

/-- a number literal as the serialiser can emit it: ASCII, and a complete JSON number -/
def validNumLit (lit : Str) : Bool :=
  lit.all (fun c => c.toNat < 0x80) &&
    (match parseNumber (utf8 lit) with
     | some (l, r) => r.isEmpty && l == utf8 lit
     | none => false)

mutual
def J.printable : J → Bool
  | .num lit => validNumLit lit
  | .arr xs => printableList xs
  | .obj kvs => nodupKeys (keysOf kvs) && printableKVs kvs
  | _ => true
def printableList : List J → Bool
  | [] => true
  | x :: xs => x.printable && printableList xs
def printableKVs : List (Str × J) → Bool
  | [] => true
  | (_, v) :: rest => v.printable && printableKVs rest
end

mutual
/-- fuel that suffices to parse the printed value.  `parseElems (f + 1)` hands `f` both to the first
    value and to the rest of the list, so the maximum over the members would do; the sum is what can
    be compared with the length of the text (`size_le_length`, Lemmas/ParseValid.lean) -/
def J.size : J → Nat
  | .arr xs => 1 + sizeList xs
  | .obj kvs => 1 + sizeKVs kvs
  | _ => 1
def sizeList : List J → Nat
  | [] => 0
  | x :: xs => 1 + x.size + sizeList xs
def sizeKVs : List (Str × J) → Nat
  | [] => 0
  | (_, v) :: rest => 1 + v.size + sizeKVs rest
end

theorem validNumLit_iff (lit : Str) : validNumLit lit = true ↔
    (lit.all fun c => c.toNat < 0x80) = true ∧ parseNumber (utf8 lit) = some (utf8 lit, []) := by
  simp only [validNumLit, Bool.and_eq_true]
  refine and_congr_right fun _ => ?_
  cases parseNumber (utf8 lit) with
  | none => simp
  | some p => simp only [Bool.and_eq_true, List.isEmpty_iff, beq_iff_eq, Option.some.injEq, Prod.ext_iff, and_comm]

theorem validNum_head (lit : Str) (h : validNumLit lit = true) : ∃ b r, utf8 lit = b :: r ∧ numByte b = true := by
  have hp := ((validNumLit_iff lit).mp h).2
  cases hu : utf8 lit with
  | nil => simp [hu, parseNumber, numSign, numInt] at hp
  | cons b r => exact ⟨b, r, rfl, (parseNumber_scanned _ _ _ hp).2 b (hu ▸ List.mem_cons_self ..)⟩

/-- such a byte is no white space, starts no other kind of value and closes no container -/
theorem numStart_ne {b : UInt8} (h : numByte b = true) : isWs b = false ∧ b ∉ notNumStart ∧ b ≠ 93 ∧ b ≠ 125 := by
  simp only [numByte, isDigit, Bool.or_eq_true, Bool.and_eq_true, decide_eq_true_eq] at h
  rcases h with ((((e | rfl) | rfl) | rfl) | rfl) | rfl
  · -- a digit lies in 48..57; the four white-space bytes, the six of `notNumStart`, `]` and `}` lie outside
    have e1 : 48 ≤ b.toNat := UInt8.le_iff_toNat_le.mp e.1
    have e2 : b.toNat ≤ 57 := UInt8.le_iff_toNat_le.mp e.2
    have ne : ∀ x : UInt8, x.toNat < 48 ∨ 57 < x.toNat → b ≠ x := fun x hx e => by subst e; omega
    simp only [isWs, Bool.or_eq_false_iff, decide_eq_false_iff_not, notNumStart, List.mem_cons, List.mem_nil_iff,
      or_false, not_or]
    refine ⟨⟨⟨⟨?_, ?_⟩, ?_⟩, ?_⟩, ⟨?_, ?_, ?_, ?_, ?_, ?_⟩, ?_, ?_⟩ <;> exact ne _ (by decide)
  all_goals decide

theorem flatMap_esc_length (s : Str) : s.length ≤ (s.flatMap escChar).length := by
  induction s with
  | nil => simp
  | cons c r ih =>
    have := List.length_pos_iff.mpr (escChar_esc c).ne_nil
    simp only [List.flatMap_cons, List.length_append, List.length_cons]; omega

/-- the first byte of a printed value is not white space and not a closing bracket -/
theorem printJ_head (v : J) (hp : v.printable = true) :
    ∃ b r, printJ v = b :: r ∧ isWs b = false ∧ b ≠ 93 ∧ b ≠ 125 := by
  cases v with
  | null => exact ⟨110, [117, 108, 108], by decide, by decide⟩
  | bool x => cases x
              · exact ⟨102, [97, 108, 115, 101], by decide, by decide⟩
              · exact ⟨116, [114, 117, 101], by decide, by decide⟩
  | str s => exact ⟨34, s.flatMap escChar ++ [34], by simp [printJ, printStr], by decide⟩
  | arr xs => exact ⟨91, printElems xs ++ [93], by simp [printJ], by decide⟩
  | obj kvs => exact ⟨123, printMembers kvs ++ [125], by simp [printJ], by decide⟩
  | num lit =>
    obtain ⟨b, r, hu, hb⟩ := validNum_head lit hp
    have hs := numStart_ne hb
    exact ⟨b, r, by simp [printJ, hu], hs.1, hs.2.2.1, hs.2.2.2⟩

/-- a printed non-empty element list starts with a byte that is neither white space nor `]` -/
theorem printElems_head (x : J) (xs : List J) (hx : x.printable = true) (t : Bytes) :
    ∃ b r, printElems (x :: xs) ++ 93 :: t = b :: r ∧ isWs b = false ∧ b ≠ 93 := by
  obtain ⟨b, r, hb, hws, h93, _⟩ := printJ_head x hx
  cases xs with
  | nil => exact ⟨b, r ++ 93 :: t, by simp [printElems, hb], hws, h93⟩
  | cons y ys => exact ⟨b, r ++ 44 :: (printElems (y :: ys) ++ 93 :: t), by simp [printElems, hb], hws, h93⟩

theorem printMembers_head (k : Str) (v : J) (ms : List (Str × J)) (t : Bytes) :
    ∃ r, printMembers ((k, v) :: ms) ++ 125 :: t = 34 :: r := by
  cases ms <;> simp [printMembers, printStr]

theorem skipWs_head_ne {x : Bytes} {b c : UInt8} {r : Bytes} (hx : x = b :: r) (hws : isWs b = false := by decide)
    (hne : b ≠ c := by decide) :
    ∀ t, skipWs x ≠ c :: t := by
  intro t e; rw [hx, skipWs_idem_cons b r hws] at e; exact hne (List.cons.inj e).1

theorem num_parses (f : Nat) (lit : Str) (hv : validNumLit lit = true) (t : Bytes) (ht : endsValue t = true) :
    Parses (f + 1) (utf8 lit ++ t) (.val (.num lit)) t := by
  obtain ⟨b, r, hu, hb⟩ := validNum_head lit hv
  have hext := parseNumber_append t ht (utf8 lit)
  obtain ⟨hascii, hparse⟩ := (validNumLit_iff lit).mp hv
  rw [hparse, hu] at hext
  have hs := numStart_ne hb
  have := Parses.num (f := f) (x := utf8 lit ++ t) (by rw [hu]; exact skipWs_idem_cons b _ hs.1) hs.2.1 hext ht
  rwa [← hu, utf8_ascii lit hascii] at this

/-- the body of a printed string (a key, or a string value) with the fuel `parseValue` and `parseMembers` give it -/
theorem printStr_parses (k : Str) (t : Bytes) :
    parseStrBody ((k.flatMap escChar ++ 34 :: t).length + 1) (k.flatMap escChar ++ 34 :: t) = some (k, t) :=
  parseStrBody_print k _ _ (by have := flatMap_esc_length k; simp only [List.length_append, List.length_cons]; omega)

/-- the claim for one value: its printed text, in front of anything that ends a value, is parsed back
    to it with `v.size` fuel or more -/
def PrintParses (v : J) : Prop :=
  v.printable = true → ∀ (t : Bytes), endsValue t = true → ∀ (fuel : Nat), v.size ≤ fuel →
    Parses fuel (printJ v ++ t) (.val v) t

/-- the elements of a non-empty array, up to and including the closing bracket -/
theorem printElems_parses : ∀ (x : J) (xs : List J), (∀ y ∈ x :: xs, PrintParses y) → printableList (x :: xs) = true →
    ∀ (t : Bytes) (fuel : Nat), sizeList (x :: xs) ≤ fuel + 1 →
    Parses (fuel + 1) (printElems (x :: xs) ++ 93 :: t) (.elems (x :: xs)) t
  | x, [], ih, hp, t, f, hf => by
    simp only [printableList, Bool.and_eq_true] at hp
    simp only [sizeList] at hf
    exact .elemLast (ih x (List.mem_cons_self ..) hp.1 (93 :: t) rfl f (by omega)) (skipWs_idem_cons 93 _ rfl)
  | x, y :: ys, ih, hp, t, f, hf => by
    simp only [printableList, Bool.and_eq_true] at hp
    simp only [sizeList] at hf
    obtain ⟨b, r, hb, hws, h93⟩ := printElems_head y ys hp.2.1 t
    obtain ⟨f, rfl⟩ : ∃ n, f = n + 1 := ⟨f - 1, by omega⟩
    simp only [printElems, List.append_assoc, List.cons_append, List.nil_append]
    exact .elemMore (ih x (List.mem_cons_self ..) hp.1 _ rfl _ (by omega)) (skipWs_idem_cons 44 _ rfl)
      (skipWs_head_ne hb hws h93)
      (printElems_parses y ys (fun z hz => ih z (List.mem_cons_of_mem _ hz)) (by simp [printableList, hp.2.1, hp.2.2]) t f
        (by simp only [sizeList]; omega))

/-- the members of a non-empty object, accumulated with `OrderedMap.Set`, up to the closing brace -/
theorem printMembers_parses : ∀ (k : Str) (v : J) (ms : List (Str × J)), (∀ k' v', (k', v') ∈ (k, v) :: ms → PrintParses v') →
    printableKVs ((k, v) :: ms) = true → ∀ (t : Bytes) (fuel : Nat), sizeKVs ((k, v) :: ms) ≤ fuel + 1 →
    ∀ (acc : List (Str × J)), Parses (fuel + 1) (printMembers ((k, v) :: ms) ++ 125 :: t)
      (.mems acc (((k, v) :: ms).foldl (fun acc p => setKV p.1 p.2 acc) acc)) t
  | k, v, [], ih, hp, t, f, hf, acc => by
    simp only [printableKVs, Bool.and_eq_true] at hp
    simp only [sizeKVs] at hf
    simp only [printMembers, printStr, List.append_assoc, List.cons_append, List.nil_append]
    exact .memLast (skipWs_idem_cons 34 _ rfl) (printStr_parses k _) (skipWs_idem_cons 58 _ rfl)
      (ih k v (List.mem_cons_self ..) hp.1 (125 :: t) rfl f (by omega)) (skipWs_idem_cons 125 _ rfl)
  | k, v, (k2, v2) :: ms, ih, hp, t, f, hf, acc => by
    simp only [printableKVs, Bool.and_eq_true] at hp
    simp only [sizeKVs] at hf
    obtain ⟨r, hr⟩ := printMembers_head k2 v2 ms t
    obtain ⟨f, rfl⟩ : ∃ n, f = n + 1 := ⟨f - 1, by omega⟩
    simp only [printMembers, printStr, List.append_assoc, List.cons_append, List.nil_append]
    exact .memMore (skipWs_idem_cons 34 _ rfl) (printStr_parses k _) (skipWs_idem_cons 58 _ rfl)
      (ih k v (List.mem_cons_self ..) hp.1 _ rfl _ (by omega)) (skipWs_idem_cons 44 _ rfl) (skipWs_head_ne hr)
      (printMembers_parses k2 v2 ms (fun k' v' h => ih k' v' (List.mem_cons_of_mem _ h)) (by simp [printableKVs, hp.2.1, hp.2.2]) t f
        (by simp only [sizeKVs]; omega) _)

theorem printJ_parses : ∀ v, PrintParses v := by
  refine J.induction (M := PrintParses) ?_ ?_ ?_
  · intro v _ hp t ht fuel hf
    obtain ⟨f, rfl⟩ : ∃ n, fuel = n + 1 := ⟨fuel - 1, by cases v <;> simp only [J.size] at hf <;> omega⟩
    cases v with
    | null =>
      exact .lit (b := 110) (w := "ull") (.tail _ (.tail _ (.head _))) (skipWs_idem_cons 110 _ rfl) (stripPrefix_eq_some.mpr rfl) ht
    | bool x =>
      cases x
      · exact .lit (b := 102) (w := "alse") (.tail _ (.head _)) (skipWs_idem_cons 102 _ rfl) (stripPrefix_eq_some.mpr rfl) ht
      · exact .lit (b := 116) (w := "rue") (.head _) (skipWs_idem_cons 116 _ rfl) (stripPrefix_eq_some.mpr rfl) ht
    | num lit => exact num_parses f lit hp t ht
    | str s =>
      simp only [printJ, printStr, List.append_assoc, List.cons_append, List.nil_append]
      exact .str (skipWs_idem_cons 34 _ rfl) (printStr_parses s t) ht
    | arr | obj => rename_i hs; cases hs
  · intro xs ih hp t _ fuel hf
    obtain ⟨f, rfl⟩ : ∃ n, fuel = n + 1 := ⟨fuel - 1, by simp only [J.size] at hf; omega⟩
    simp only [printJ, List.append_assoc, List.cons_append, List.nil_append]
    cases xs with
    | nil => exact .arrNil (skipWs_idem_cons 91 _ rfl) (skipWs_idem_cons 93 _ rfl)
    | cons x xs =>
      simp only [J.printable] at hp
      have hx : x.printable = true := by simp only [printableList, Bool.and_eq_true] at hp; exact hp.1
      obtain ⟨b, r, hb, hws, h93⟩ := printElems_head x xs hx t
      obtain ⟨f, rfl⟩ : ∃ n, f = n + 1 := ⟨f - 1, by simp only [J.size, sizeList] at hf; omega⟩
      exact .arr (skipWs_idem_cons 91 _ rfl) (skipWs_head_ne hb hws h93)
        (printElems_parses x xs ih hp t f (by simp only [J.size] at hf; omega))
  · intro kvs ih hp t _ fuel hf
    obtain ⟨f, rfl⟩ : ∃ n, fuel = n + 1 := ⟨fuel - 1, by simp only [J.size] at hf; omega⟩
    simp only [printJ, List.append_assoc, List.cons_append, List.nil_append]
    cases kvs with
    | nil => exact .objNil (skipWs_idem_cons 123 _ rfl) (skipWs_idem_cons 125 _ rfl)
    | cons m ms =>
      obtain ⟨k, v⟩ := m
      simp only [J.printable, Bool.and_eq_true] at hp
      obtain ⟨r, hr⟩ := printMembers_head k v ms t
      obtain ⟨f, rfl⟩ : ∃ n, f = n + 1 := ⟨f - 1, by simp only [J.size, sizeKVs] at hf; omega⟩
      have := printMembers_parses k v ms ih hp.2 t f (by simp only [J.size] at hf; omega) []
      -- distinct keys: accumulating with `Set` gives the members back
      rw [show ((k, v) :: ms).foldl (fun acc p => setKV p.1 p.2 acc) [] = (k, v) :: ms from
        fromPairs_of_nodup ((k, v) :: ms) hp.1] at this
      exact .obj (skipWs_idem_cons 123 _ rfl) (skipWs_head_ne hr) this

/-- **parse ∘ print = id** for one value followed by anything that starts with a delimiter (C03, C19) -/
theorem parse_print : ∀ (v : J), v.printable = true → ∀ (t : Bytes), delimHead t → ∀ (fuel : Nat), v.size ≤ fuel →
    parseValue fuel (printJ v ++ t) = some (v, t) :=
  fun v hp t ht fuel hf => (printJ_parses v hp t ((delimHead_iff t).mp ht) fuel hf).complete

theorem parseElems_print : ∀ (x : J) (xs : List J), printableList (x :: xs) = true → ∀ (t : Bytes) (fuel : Nat),
    sizeList (x :: xs) ≤ fuel + 1 → parseElems (fuel + 1) (printElems (x :: xs) ++ 93 :: t) = some (x :: xs, t) :=
  fun x xs hp t fuel hf => (printElems_parses x xs (fun y _ => printJ_parses y) hp t fuel hf).complete

theorem parseMembers_print : ∀ (k : Str) (v : J) (ms : List (Str × J)), printableKVs ((k, v) :: ms) = true →
    ∀ (t : Bytes) (fuel : Nat), sizeKVs ((k, v) :: ms) ≤ fuel + 1 → ∀ (acc : List (Str × J)),
    parseMembers (fuel + 1) (printMembers ((k, v) :: ms) ++ 125 :: t) acc =
      some (((k, v) :: ms).foldl (fun acc p => setKV p.1 p.2 acc) acc, t) :=
  fun k v ms hp t fuel hf acc => (printMembers_parses k v ms (fun _ v' _ => printJ_parses v') hp t fuel hf acc).complete

end Anonymongo
