/-
  Lemmas/LitsOk.lean — "every number literal in the tree satisfies `P`", for an arbitrary predicate `P` on
  literals, is a `TreePred` (Lemmas/TreePred.lean): the walkers keep it if the number placeholder satisfies `P`.
  Used at `validNumLit` for `J.printable` (Lemmas/ParseValid.lean); `J.numsOk` (Lemmas/NumsOk.lean) is the
  same recursion for one fixed `P`.
-/
import Anonymongo.Lemmas.TreePred
namespace Anonymongo

mutual
def J.litsOk (P : Str → Bool) : J → Bool
  | .num lit => P lit
  | .arr xs => litsOkList P xs
  | .obj kvs => litsOkKVs P kvs
  | _ => true
def litsOkList (P : Str → Bool) : List J → Bool
  | [] => true
  | x :: xs => x.litsOk P && litsOkList P xs
def litsOkKVs (P : Str → Bool) : List (Str × J) → Bool
  | [] => true
  | (_, v) :: rest => v.litsOk P && litsOkKVs P rest
end

variable {P : Str → Bool}

theorem litsOkList_iff : ∀ xs : List J, litsOkList P xs = true ↔ ∀ x ∈ xs, J.litsOk P x = true
  | [] => by simp [litsOkList]
  | x :: xs => by simp [litsOkList, litsOkList_iff xs]

theorem litsOkKVs_iff : ∀ kvs : List (Str × J), litsOkKVs P kvs = true ↔ ∀ p ∈ kvs, J.litsOk P p.2 = true
  | [] => by simp [litsOkKVs]
  | (_, v) :: rest => by simp [litsOkKVs, litsOkKVs_iff rest]

theorem litsOk_treePred (P : Str → Bool) : TreePred (fun v => J.litsOk P v = true) (fun _ => True) where
  arr := fun xs => by simp only [J.litsOk]; exact litsOkList_iff xs
  obj := fun kvs => by simp only [J.litsOk, true_and]; exact litsOkKVs_iff kvs
  null := rfl
  bool := fun _ => rfl
  str := fun _ => rfl
  keysNil := trivial
  keysSet := fun _ _ _ _ => trivial

namespace Ctx

theorem runKVs_litsOk (c : Ctx) (hT : P c.T.number = true) (f : Str → J → Str × St) :
    ∀ kvs, litsOkKVs P kvs = true → litsOkKVs P (c.runKVs f kvs) = true := fun kvs h =>
  (litsOkKVs_iff _).mpr (runKVs_pres (litsOk_treePred P) c hT f kvs ((litsOkKVs_iff kvs).mp h))

theorem runList_litsOk (c : Ctx) (hT : P c.T.number = true) :
    ∀ (s : St) (xs : List J), litsOkList P xs = true → litsOkList P (c.runList s xs) = true := fun s xs h =>
  (litsOkList_iff _).mpr (runList_pres (litsOk_treePred P) c hT s xs ((litsOkList_iff xs).mp h))

end Ctx

end Anonymongo
