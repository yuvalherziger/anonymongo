/-
  Lemmas/Utf8.lean — Go's utf8.DecodeRune inverts the UTF-8 encoder on every Unicode scalar value
  (`decodeRune_utf8Enc`) and consumes a prefix of its input (`decodeRune_suffix`); the encoder emits one byte below
  U+0080 and no control byte from U+0020 on.  Part of the byte-level round trip parse ∘ print.
-/
import Anonymongo.Model.JsonText
namespace Anonymongo

theorem char_valid (c : Char) : c.toNat < 0xD800 ∨ (0xE000 ≤ c.toNat ∧ c.toNat < 0x110000) := by
  have h := c.valid
  unfold UInt32.isValidChar Nat.isValidChar at h
  show c.val.toNat < 0xD800 ∨ (0xE000 ≤ c.val.toNat ∧ c.val.toNat < 0x110000)
  omega

theorem ofNat_toNat_small (n : Nat) (h : n < 0xd800) : (Char.ofNat n).toNat = n := by
  have hv : n.isValidChar := Or.inl h
  simp only [Char.ofNat, hv, dite_true, Char.ofNatAux, Char.toNat]
  show (UInt32.ofNatLT n _).toNat = n
  simp

theorem toNat_toUInt8 (n : Nat) (h : n < 256) : n.toUInt8.toNat = n := by simp; omega

theorem toUInt8_eq_iff (n m : Nat) (h : n < 256) (hm : m < 256) : n.toUInt8 = m.toUInt8 ↔ n = m :=
  ⟨fun e => by have := congrArg UInt8.toNat e; rwa [toNat_toUInt8 n h, toNat_toUInt8 m hm] at this, fun e => e ▸ rfl⟩

/-! ### the decoder on the four byte patterns

  Stated on the payload digits `a b c d` of the bytes, not on `n / 4096 % 64` and the like: the
  side goals are then linear, and the digits of a scalar value are put in at the end
  (`decodeRune_utf8Enc`). -/

/-- a continuation byte `10xxxxxx` -/
theorem cont_byte (x : Nat) (h : x < 64) : isCont (0x80 + x).toUInt8 = true ∧ (0x80 + x).toUInt8.toNat - 0x80 = x := by
  have e := toNat_toUInt8 (0x80 + x) (by omega)
  simp only [isCont, UInt8.le_iff_toNat_le, e, Bool.and_eq_true, decide_eq_true_eq]
  refine ⟨⟨?_, ?_⟩, ?_⟩ <;> simp <;> omega

theorem decodeRune1 (b : UInt8) (rest : Bytes) (h : b < 0x80) : decodeRune b rest = (Char.ofNat b.toNat, rest) := by
  unfold decodeRune; rw [if_pos h]

theorem decodeRune2 (a b : Nat) (rest : Bytes) (ha : 2 ≤ a) (ha' : a < 32) (hb : b < 64) :
    decodeRune (0xC0 + a).toUInt8 ((0x80 + b).toUInt8 :: rest) = (Char.ofNat (a * 64 + b), rest) := by
  have hb0 : (0xC0 + a).toUInt8.toNat = 0xC0 + a := toNat_toUInt8 _ (by omega)
  unfold decodeRune
  simp only [UInt8.lt_iff_toNat_lt, UInt8.le_iff_toNat_le, hb0, (cont_byte b hb).1, (cont_byte b hb).2, if_true]
  rw [if_neg (by simp; omega), if_pos (by simp; omega), show 0xC0 + a - 0xC0 = a by omega]

/-- three bytes; `E0` wants a second byte from `A0` (no overlong form), `ED` one up to `9F` (no surrogate) -/
theorem decodeRune3 (a b c : Nat) (rest : Bytes) (ha : a < 16) (hb : b < 64) (hc : c < 64)
    (hlo : a = 0 → 32 ≤ b) (hhi : a = 13 → b < 32) :
    decodeRune (0xE0 + a).toUInt8 ((0x80 + b).toUInt8 :: (0x80 + c).toUInt8 :: rest)
      = (Char.ofNat (a * 4096 + b * 64 + c), rest) := by
  have hb0 : (0xE0 + a).toUInt8.toNat = 0xE0 + a := toNat_toUInt8 _ (by omega)
  have hb1 : (0x80 + b).toUInt8.toNat = 0x80 + b := toNat_toUInt8 _ (by omega)
  have e224 : ((0xE0 + a).toUInt8 = 224) = (a = 0) :=
    propext ((toUInt8_eq_iff (0xE0 + a) 224 (by omega) (by omega)).trans (by omega))
  have e237 : ((0xE0 + a).toUInt8 = 237) = (a = 13) :=
    propext ((toUInt8_eq_iff (0xE0 + a) 237 (by omega) (by omega)).trans (by omega))
  unfold decodeRune
  simp only [UInt8.lt_iff_toNat_lt, UInt8.le_iff_toNat_le, hb0, hb1, (cont_byte c hc).1, (cont_byte c hc).2,
    e224, e237, Bool.and_true]
  rw [if_neg (by simp; omega), if_neg (by simp; omega), if_pos (by simp; omega)]
  rw [if_pos]
  · rw [show 0xE0 + a - 0xE0 = a by omega, show 0x80 + b - 0x80 = b by omega]
  · by_cases x : a = 0 <;> by_cases y : a = 13 <;> simp [x, y] <;> omega

/-- four bytes; `F0` wants a second byte from `90` (no overlong form), `F4` one up to `8F` (≤ U+10FFFF) -/
theorem decodeRune4 (a b c d : Nat) (rest : Bytes) (ha : a ≤ 4) (hb : b < 64) (hc : c < 64) (hd : d < 64)
    (hlo : a = 0 → 16 ≤ b) (hhi : a = 4 → b < 16) :
    decodeRune (0xF0 + a).toUInt8 ((0x80 + b).toUInt8 :: (0x80 + c).toUInt8 :: (0x80 + d).toUInt8 :: rest)
      = (Char.ofNat (a * 262144 + b * 4096 + c * 64 + d), rest) := by
  have hb0 : (0xF0 + a).toUInt8.toNat = 0xF0 + a := toNat_toUInt8 _ (by omega)
  have hb1 : (0x80 + b).toUInt8.toNat = 0x80 + b := toNat_toUInt8 _ (by omega)
  have e240 : ((0xF0 + a).toUInt8 = 240) = (a = 0) :=
    propext ((toUInt8_eq_iff (0xF0 + a) 240 (by omega) (by omega)).trans (by omega))
  have e244 : ((0xF0 + a).toUInt8 = 244) = (a = 4) :=
    propext ((toUInt8_eq_iff (0xF0 + a) 244 (by omega) (by omega)).trans (by omega))
  unfold decodeRune
  simp only [UInt8.lt_iff_toNat_lt, UInt8.le_iff_toNat_le, hb0, hb1, (cont_byte c hc).1, (cont_byte d hd).1,
    (cont_byte c hc).2, (cont_byte d hd).2, e240, e244, Bool.and_true]
  rw [if_neg (by simp; omega), if_neg (by simp; omega), if_neg (by simp; omega), if_pos (by simp; omega)]
  rw [if_pos]
  · rw [show 0xF0 + a - 0xF0 = a by omega, show 0x80 + b - 0x80 = b by omega]
  · by_cases x : a = 0 <;> by_cases y : a = 4 <;> simp [x, y] <;> omega

/-- **decode ∘ encode = id** on every scalar value, with any continuation of the input.  That `c` is a
    scalar value (`char_valid`) is used twice: no surrogate, so the second byte after `ED` is at most `9F`;
    at most U+10FFFF, so the first byte is at most `F4`, and after `F4` the second at most `8F` -/
theorem decodeRune_utf8Enc (c : Char) (rest : Bytes) :
    ∃ b0 tail, utf8Enc c = b0 :: tail ∧ decodeRune b0 (tail ++ rest) = (c, rest) := by
  have m := fun k => Nat.mod_lt k (show 0 < 64 by decide)
  unfold utf8Enc
  conv => zeta
  split
  · refine ⟨_, _, rfl, ?_⟩
    rw [List.nil_append, decodeRune1 _ rest (by rw [UInt8.lt_iff_toNat_lt, toNat_toUInt8 _ (by omega)]; assumption),
      toNat_toUInt8 _ (by omega), Char.ofNat_toNat]
  split
  · refine ⟨_, _, rfl, ?_⟩
    rw [List.cons_append, List.nil_append, decodeRune2 _ _ rest (by omega) (by omega) (m _),
      show c.toNat / 64 * 64 + c.toNat % 64 = c.toNat by omega, Char.ofNat_toNat]
  split
  · refine ⟨_, _, rfl, ?_⟩
    rw [List.cons_append, List.cons_append, List.nil_append,
      decodeRune3 _ _ _ rest (by omega) (m _) (m _) (by omega) (by have := char_valid c; omega),
      show c.toNat / 4096 * 4096 + c.toNat / 64 % 64 * 64 + c.toNat % 64 = c.toNat by omega, Char.ofNat_toNat]
  · refine ⟨_, _, rfl, ?_⟩
    rw [List.cons_append, List.cons_append, List.cons_append, List.nil_append,
      decodeRune4 _ _ _ _ rest (by have := char_valid c; omega) (m _) (m _) (m _) (by omega)
        (by have := char_valid c; omega),
      show c.toNat / 262144 * 262144 + c.toNat / 4096 % 64 * 4096 + c.toNat / 64 % 64 * 64 + c.toNat % 64 = c.toNat
        by omega, Char.ofNat_toNat]

theorem decodeRune_suffix (b0 : UInt8) (rest : Bytes) : ∃ pre, rest = pre ++ (decodeRune b0 rest).2 := by
  have ite_suffix : ∀ (C : Prop) [Decidable C] (x y : Char) (pre r : Bytes),
      ∃ p, pre ++ r = p ++ (if C then (x, r) else (y, pre ++ r)).2 := by
    intro C _ x y pre r; split; exact ⟨pre, rfl⟩; exact ⟨[], rfl⟩
  unfold decodeRune
  conv => zeta
  by_cases h1 : b0 < 0x80; · rw [if_pos h1]; exact ⟨[], rfl⟩
  rw [if_neg h1]
  by_cases h2 : (decide (0xC2 ≤ b0) && decide (b0 ≤ 0xDF)) = true
  · rw [if_pos h2]
    match rest with
    | [] => exact ⟨[], rfl⟩
    | b1 :: r => exact ite_suffix _ _ _ [b1] r
  rw [if_neg h2]
  by_cases h3 : (decide (0xE0 ≤ b0) && decide (b0 ≤ 0xEF)) = true
  · rw [if_pos h3]
    match rest with
    | [] | [_] => exact ⟨[], rfl⟩
    | b1 :: b2 :: r => exact ite_suffix _ _ _ [b1, b2] r
  rw [if_neg h3]
  by_cases h4 : (decide (0xF0 ≤ b0) && decide (b0 ≤ 0xF4)) = true
  · rw [if_pos h4]
    match rest with
    | [] | [_] | [_, _] => exact ⟨[], rfl⟩
    | b1 :: b2 :: b3 :: r => exact ite_suffix _ _ _ [b1, b2, b3] r
  rw [if_neg h4]; exact ⟨[], rfl⟩

theorem utf8Enc_ascii (c : Char) (h : c.toNat < 0x80) : utf8Enc c = [c.toNat.toUInt8] := by
  simp only [utf8Enc, h, if_true]

theorem utf8Enc_no_control (c : Char) (h : 0x20 ≤ c.toNat) : ∀ b ∈ utf8Enc c, 0x20 ≤ b := by
  have hv := char_valid c
  have hb : ∀ n, 0x20 ≤ n % 256 → (0x20 : UInt8) ≤ n.toUInt8 := fun n h => by rw [UInt8.le_iff_toNat_le]; simpa using h
  intro b hm
  simp only [utf8Enc] at hm
  repeat' split at hm
  all_goals
    simp only [List.mem_cons, List.mem_nil_iff, or_false] at hm
    rcases hm with rfl | rfl | rfl | rfl <;> (apply hb; omega)

theorem utf8_ascii (lit : Str) (h : (lit.all fun c => c.toNat < 0x80) = true) :
    (utf8 lit).map (fun x => Char.ofNat x.toNat) = lit := by
  induction lit with
  | nil => rfl
  | cons c t ih =>
    simp only [List.all_cons, Bool.and_eq_true, decide_eq_true_eq] at h
    simp only [utf8, List.flatMap_cons, utf8Enc_ascii c h.1, List.singleton_append, List.map_cons]
    rw [toNat_toUInt8 _ (by omega), Char.ofNat_toNat]
    have := ih h.2
    simp only [utf8] at this
    rw [this]

theorem utf8_ofBytes (lit : Bytes) (h : ∀ b ∈ lit, b.toNat < 0x80) :
    utf8 (lit.map fun x => Char.ofNat x.toNat) = lit := by
  induction lit with
  | nil => rfl
  | cons b t ih =>
    have hb := h b (List.mem_cons_self ..)
    have e : utf8Enc (Char.ofNat b.toNat) = [b] := by
      rw [utf8Enc_ascii _ (by rw [ofNat_toNat_small _ (by omega)]; exact hb), ofNat_toNat_small _ (by omega)]
      simp only [Nat.toUInt8, UInt8.ofNat_toNat]
    have := ih (fun x hx => h x (List.mem_cons_of_mem _ hx))
    simp only [utf8] at this ⊢
    simp only [List.map_cons, List.flatMap_cons, e, List.singleton_append, this]

end Anonymongo
